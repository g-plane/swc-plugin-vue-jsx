import VueJsx.Syntax
import VueJsx.Text
import VueJsx.Base
import VueJsx.Directive
import VueJsx.Attrs
import VueJsx.Element
import VueJsx.ResolveType
import VueJsx.Visitor
import VueJsx.Options
import VueJsx.Sem
import VueJsx.TypeSpec
import VueJsx.Oracle
import VueJsx.Canon
import VueJsx.Lemmas.Erase
import VueJsx.Props.C01
import VueJsx.Props.C01b
import VueJsx.Props.C02
import VueJsx.Props.C02b
import VueJsx.Props.C03
import VueJsx.Props.C04
import VueJsx.Props.C04b
import VueJsx.Props.C05
import VueJsx.Props.C06
import VueJsx.Props.C07
import VueJsx.Props.C07b
import VueJsx.Props.C08
import VueJsx.Props.C09
import VueJsx.Props.C09b
import VueJsx.Props.C10
import VueJsx.Props.C11
import VueJsx.Props.C12
import VueJsx.Props.C12b
import VueJsx.Props.C13
import VueJsx.Props.C13b
import VueJsx.Props.C14
import VueJsx.Props.C15
import VueJsx.Props.C15b
import VueJsx.Props.C16
import VueJsx.Props.C16c
import VueJsx.Props.C17
import VueJsx.Props.C17c
import VueJsx.Props.C18
import VueJsx.Props.C19
import VueJsx.Props.C19c
import VueJsx.Props.C20
