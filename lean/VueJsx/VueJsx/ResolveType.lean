/-
  ResolveType: model of visitor/src/resolve_type.rs and of the `defineComponent` hooks in lib.rs
  (`visit_mut_call_expr`, `visit_mut_var_declarator`, `inject_define_component_option`,
   `visit_mut_ts_interface_decl`, `visit_mut_ts_type_alias_decl`).

  The only non-structural recursion of the whole model is here: resolution follows user-declared aliases and
  interfaces through the registry.  It takes fuel; running out of fuel is the model's image of the real code's
  unbounded recursion (native stack overflow).
-/
import VueJsx.Base

namespace VueJsx

/-- `MAX_TYPE_RESOLUTION_DEPTH` -/
def FUEL : Nat := 64

/-- marker for `any` / `unknown` among the inferred runtime types -/
def ANY_TYPE : String := "any"

def tooDeep : String := "Error: Type is circular or nested too deeply to be resolved."

/-- `enter_type_resolution` at nesting depth `FUEL - (fuel + 1)`: a resolution that starts (depth 0) forgets an earlier give-up;
    a nested one is skipped (`none`) once the resolution in progress has given up -/
def enterRes (fuel : Nat) (st : St) : Option St :=
  if fuel + 1 == 64 then some { st with typeGaveUp := false }
  else if st.typeGaveUp then none else some st

/-- the depth limit is hit: reported once per resolution, which is then unwound -/
def giveUp (st : St) : St :=
  if st.typeGaveUp then st else { st.err tooDeep with typeGaveUp := true }

/-- runtime type entry: `some "String"` … or `none` for the `null` value -/
abbrev RT := Option String

def rtInsert (x : RT) (xs : List RT) : List RT := if xs.contains x then xs else xs ++ [x]
def rtExtend (xs ys : List RT) : List RT := ys.foldl (fun acc y => rtInsert y acc) xs

def lookupReg (reg : List ((String × String) × Node)) (key : String × String) : Option Node :=
  (reg.find? (fun p => p.1 == key)).map (·.2)

def typeParamsList : Node → List Node
  | .mk .tsTypeParamInst _ [.mk .list _ ps] => ps
  | _ => []

def typeAnnInner : Node → Option Node
  | .mk .tsTypeAnn _ [t] => some t
  | _ => none

/-- keep only the member kinds `resolve_type_elements` refines -/
def refineMembers (members : List Node) : List Node :=
  members.filter fun m =>
    match m with
    | .mk .tsPropSig _ _ => true
    | .mk .tsMethodSig _ _ => true
    | .mk .tsGetterSig _ _ => true
    | .mk .tsCallSig _ _ => true
    | _ => false

def setOptional (v : Bool) (m : Node) : Node :=
  let s := if v then "true" else "false"
  match m with
  | .mk .tsPropSig [ro, comp, _] ks => .mk .tsPropSig [ro, comp, s] ks
  | .mk .tsMethodSig [comp, _] ks => .mk .tsMethodSig [comp, s] ks
  -- a getter signature has no optional flag: under `Partial` it becomes the optional (readonly) property it declares
  | .mk .tsGetterSig as ks => if v then .mk .tsPropSig ["true", as.headD "false", "true"] ks else m
  | m => m

/-- static key name of a member (identifier or string literal key) -/
def memberKeyName (m : Node) : Option (Option String) :=   -- none: no key at all (call signature)
  -- the key and the member's `computed` flag
  let key : Option (Node × String) :=
    match m with
    | .mk .tsPropSig as (k :: _) => some (k, as.getD 1 "false")
    | .mk .tsMethodSig as (k :: _) => some (k, as.headD "false")
    | .mk .tsGetterSig as (k :: _) => some (k, as.headD "false")
    | _ => none
  key.map fun (k, computed) =>
    -- `static_key_name`: `name`, `'name'`, `['name']` - not `[name]`, which is named by the value of `name`
    match k with
    | .mk .ident (n :: _) _ => if computed == "true" then none else some n
    | .mk .str (v :: _) _ => some v
    | _ => none

def nFunctionRef : Node := .mk .tsTypeRef [] [nIdent "Function" "e", nNone]
def nUnionType (ts : List Node) : Node := .mk .tsUnion [] [nList ts]

/-- `resolve_string_or_union_strings` -/
def resolveStrings (fuel : Nat) (st : St) (ty : Node) : List String × St :=
  match fuel with
  | 0 => ([], giveUp st)
  | fuel + 1 =>
    match enterRes fuel st with
    | none => ([], st)
    | some st =>
    match ty with
    | .mk .tsLitType _ [.mk .str (v :: _) _] => ([v], st)
    | .mk .tsUnion _ [.mk .list _ types] =>
      types.foldl (fun (acc : List String × St) t =>
        match t with
        | .mk .tsLitType _ [.mk .str (v :: _) _] => (acc.1 ++ [v], acc.2)
        | t => let (more, st) := resolveStrings fuel acc.2 t; (acc.1 ++ more, st)) ([], st)
    | .mk .tsTypeRef _ (.mk .ident (n :: b :: _) _ :: _) =>
      match lookupReg st.typeAliases (n, b) with
      | some aliased => resolveStrings fuel st aliased
      | none =>
        if b == "u" then
          ([], st.err "Error: Unresolvable type reference or unsupported built-in utility type.")
        else ([], st.err "Error: Types from other modules can't be resolved.")
    | .mk .tsParen _ [t] => resolveStrings fuel st t
    | .mk .tsKeyword ["never"] _ => ([], st)          -- the empty union
    | _ => ([], st.err "Error: Unsupported type as index key.")

/-- the member types an index type selects out of a member list -/
def selectMembers (fuel : Nat) (st : St) (members : List Node) (index : Node) : List Node × St :=
  let annOf (m : Node) : Option Node :=
    match m with
    | .mk .tsPropSig _ [_, ann] => typeAnnInner ann
    | .mk .tsGetterSig _ [_, ann] => typeAnnInner ann
    | _ => none
  match index with
  | .mk .tsKeyword ["string"] _ =>
    (members.filterMap fun m =>
      match m with
      | .mk .tsPropSig _ _ => (match memberKeyName m with | some (some _) => annOf m | _ => none)
      | .mk .tsGetterSig _ _ => (match memberKeyName m with | some (some _) => annOf m | _ => none)
      | .mk .tsIndexSig _ ks => (ks[1]?).bind typeAnnInner
      | .mk .tsMethodSig _ _ => some nFunctionRef
      | _ => none, st)
  | idx =>
    let isKeyish :=
      match idx with
      | .mk .tsLitType _ [.mk .str _ _] => true
      | .mk .tsUnion _ _ => true
      | .mk .tsTypeRef _ _ => true
      | .mk .tsParen _ _ => true
      | _ => false
    if !isKeyish then ([], st) else
    let (keys, st) := resolveStrings fuel st idx
    (members.filterMap fun m =>
      match m with
      | .mk .tsPropSig _ _ =>
        (match memberKeyName m with | some (some k) => if keys.contains k then annOf m else none | _ => none)
      | .mk .tsGetterSig _ _ =>
        (match memberKeyName m with | some (some k) => if keys.contains k then annOf m else none | _ => none)
      | .mk .tsMethodSig _ _ =>
        (match memberKeyName m with | some (some k) => if keys.contains k then some nFunctionRef else none | _ => none)
      | _ => none, st)

def natOfNumAtom (s : String) : Nat :=
  -- `num.value as usize`: truncation toward zero, negatives and NaN saturate to 0
  match (s.splitOn ".").head? with
  | some ip => (ip.toNat?).getD 0
  | none => 0

mutual
/-- `resolve_indexed_access` -/
def resolveIndexed (fuel : Nat) (st : St) (obj index : Node) : Option Node × St :=
  match fuel with
  | 0 => (none, giveUp st)
  | fuel + 1 =>
    match enterRes fuel st with
    | none => (none, st)
    | some st =>
    let pack (props : List Node) : Option Node :=
      match props with
      | [p] => some p
      | ps => some (nUnionType ps)
    match obj with
    | .mk .tsTypeRef _ [.mk .ident (n :: b :: _) _, tparams] =>
      match lookupReg st.typeAliases (n, b) with
      | some aliased => resolveIndexed fuel st aliased index
      | none =>
        match lookupReg st.interfaces (n, b) with
        | some (.mk .tsIface _ [_, _, .mk .list _ extends_, .mk .tsIfaceBody _ [.mk .list _ members]]) =>
          let (props, st) := selectMembers fuel st members index
          -- inherited members
          let (props, st) := extends_.foldl (fun (acc : List Node × St) parent =>
            match parent with
            | .mk .tsExprWithTypeArgs _ [.mk .ident ias _, targs] =>
              match resolveIndexed fuel acc.2 (.mk .tsTypeRef [] [.mk .ident ias [], targs]) index with
              | (some (.mk .tsUnion _ [.mk .list _ types]), st) => (acc.1 ++ types, st)
              | (some t, st) => (acc.1 ++ [t], st)
              | (none, st) => (acc.1, st)
            | _ => acc) (props, st)
          (pack props, st)
        | some _ => (none, st)
        | none =>
          if b == "u" && n == "Array" then ((typeParamsList tparams).head?, st)
          else if b == "u" && (n == "Partial" || n == "Required" || n == "Pick" || n == "Omit") then
            -- `resolve_indexed_access_through_members`: into the type literal made of the resolved members
            let (ms, st) := resolveElements fuel st obj
            resolveIndexed fuel st (.mk .tsTypeLit [] [nList ms]) index
          else (none, st)
    | .mk .tsIntersection _ _ =>
      let (ms, st) := resolveElements fuel st obj
      resolveIndexed fuel st (.mk .tsTypeLit [] [nList ms]) index
    | .mk .tsParen _ [t] => resolveIndexed fuel st t index
    | .mk .tsTypeLit _ [.mk .list _ members] =>
      let (props, st) := selectMembers fuel st members index
      (pack props, st)
    | .mk .tsArray _ [elem] =>
      match index with
      | .mk .tsKeyword ["number"] _ => (some elem, st)
      | .mk .tsLitType _ [.mk .num _ _] => (some elem, st)
      | _ => (none, st)
    | .mk .tsTuple _ [.mk .list _ elems] =>
      let tyOf (e : Node) : Node := match e with | .mk .tsTupleElem _ [_, t] => t | e => e
      match index with
      | .mk .tsLitType _ [.mk .num (v :: _) _] => ((elems[natOfNumAtom v]?).map tyOf, st)
      | .mk .tsKeyword ["number"] _ => (some (nUnionType (elems.map tyOf)), st)
      | _ => (none, st)
    | _ => (none, st)

/-- `resolve_type_elements` -/
def resolveElements (fuel : Nat) (st : St) (ty : Node) : List Node × St :=
  match fuel with
  | 0 => ([], giveUp st)
  | fuel + 1 =>
    match enterRes fuel st with
    | none => ([], st)
    | some st =>
    let unresolvable := "Error: Unresolvable type."
    match ty with
    | .mk .tsTypeLit _ [.mk .list _ members] => (refineMembers members, st)
    | .mk .tsUnion _ [.mk .list _ types] =>
      types.foldl (fun (acc : List Node × St) t =>
        let (more, st) := resolveElements fuel acc.2 t; (acc.1 ++ more, st)) ([], st)
    | .mk .tsIntersection _ [.mk .list _ types] =>
      types.foldl (fun (acc : List Node × St) t =>
        let (more, st) := resolveElements fuel acc.2 t; (acc.1 ++ more, st)) ([], st)
    | .mk .tsTypeRef _ [.mk .ident (n :: b :: _) _, tparams] =>
      match lookupReg st.typeAliases (n, b) with
      | some aliased => resolveElements fuel st aliased
      | none =>
        match lookupReg st.interfaces (n, b) with
        | some (.mk .tsIface _ [_, _, .mk .list _ extends_, .mk .tsIfaceBody _ [.mk .list _ members]]) =>
          extends_.foldl (fun (acc : List Node × St) parent =>
            match parent with
            | .mk .tsExprWithTypeArgs _ [.mk .ident ias _, targs] =>
              let (more, st) := resolveElements fuel acc.2 (.mk .tsTypeRef [] [.mk .ident ias [], targs])
              (acc.1 ++ more, st)
            | _ => (acc.1, acc.2.err "Error: Unresolvable type.")) (refineMembers members, st)
        | some _ => ([], st)
        | none =>
          if b == "u" then
            let ps := typeParamsList tparams
            if n == "Partial" then
              match ps.head? with
              | some p => let (inner, st) := resolveElements fuel st p; (inner.map (setOptional true), st)
              | none => ([], st)
            else if n == "Required" then
              match ps.head? with
              | some p => let (inner, st) := resolveElements fuel st p; (inner.map (setOptional false), st)
              | none => ([], st)
            else if n == "Pick" then
              match ps with
              | objT :: keysT :: _ =>
                let (keys, st) := resolveStrings fuel st keysT
                let (inner, st) := resolveElements fuel st objT
                (inner.filter fun m =>
                  match memberKeyName m with
                  | some (some k) => keys.contains k
                  | _ => false, st)
              | _ => ([], st)
            else if n == "Omit" then
              match ps with
              | objT :: keysT :: _ =>
                let (keys, st) := resolveStrings fuel st keysT
                let (inner, st) := resolveElements fuel st objT
                (inner.filter fun m =>
                  match memberKeyName m with
                  | some (some k) => !keys.contains k
                  | _ => true, st)
              | _ => ([], st)
            else ([], st.err "Error: Unresolvable type reference or unsupported built-in utility type.")
          else ([], st.err "Error: Types from other modules can't be resolved.")
    | .mk .tsIndexed _ [objT, idxT] =>
      match resolveIndexed fuel st objT idxT with
      | (some t, st) => resolveElements fuel st t
      | (none, st) => ([], st.err unresolvable)
    | .mk .tsFnType _ [params, tparams, ann] => ([.mk .tsCallSig [] [params, ann, tparams]], st)
    | .mk .tsParen _ [t] => resolveElements fuel st t
    | .mk .tsOptional _ [t] => resolveElements fuel st t
    | _ => ([], st.err unresolvable)
end

def memberRuntime (members : List Node) : List RT :=
  members.foldl (fun acc m =>
    match m with
    | .mk .tsCallSig _ _ => rtInsert (some "Function") acc
    | .mk .tsCtorSig _ _ => rtInsert (some "Function") acc
    | _ => rtInsert (some "Object") acc) []

/-- an object-like type never yields an empty list (`type: []` would make Vue reject every value) -/
def orObject (ts : List RT) : List RT := if ts.isEmpty then [some "Object"] else ts

/-- `infer_runtime_type` -/
def inferRuntime (fuel : Nat) (st : St) (ty : Node) : List RT × St :=
  match fuel with
  | 0 => ([], giveUp st)
  | fuel + 1 =>
    match enterRes fuel st with
    | none => ([], st)
    | some st =>
    match ty with
    | .mk .tsKeyword [k] _ =>
      (if k == "string" then [some "String"] else if k == "number" then [some "Number"]
       else if k == "boolean" then [some "Boolean"] else if k == "object" then [some "Object"]
       else if k == "null" then [none] else if k == "bigint" then [some "BigInt"]
       else if k == "symbol" then [some "Symbol"]
       else if k == "any" || k == "unknown" then [some ANY_TYPE] else [none], st)
    | .mk .tsTypeLit _ [.mk .list _ members] => (orObject (memberRuntime members), st)
    | .mk .tsFnType _ _ => ([some "Function"], st)
    | .mk .tsCtorType _ _ => ([some "Function"], st)
    | .mk .tsArray _ _ => ([some "Array"], st)
    | .mk .tsTuple _ _ => ([some "Array"], st)
    | .mk .tsLitType _ [lit] =>
      match lit with
      | .mk .str _ _ => ([some "String"], st)
      | .mk .tsTplLit _ _ => ([some "String"], st)
      | .mk .bool _ _ => ([some "Boolean"], st)
      | _ => ([some "Number"], st)
    | .mk .tsTypeRef _ [.mk .ident (n :: b :: _) _, tparams] =>
      match lookupReg st.typeAliases (n, b) with
      | some aliased => inferRuntime fuel st aliased
      | none =>
        match lookupReg st.interfaces (n, b) with
        | some (.mk .tsIface _ [_, _, .mk .list _ extends_, .mk .tsIfaceBody _ [.mk .list _ members]]) =>
          let (ts, st) := extends_.foldl (fun (acc : List RT × St) parent =>
            match parent with
            | .mk .tsExprWithTypeArgs _ [.mk .ident ias _, targs] =>
              let (more, st) := inferRuntime fuel acc.2 (.mk .tsTypeRef [] [.mk .ident ias [], targs])
              (rtExtend acc.1 more, st)
            | _ => (rtInsert (some "Object") acc.1, acc.2)) (memberRuntime members, st)
          (orObject ts, st)
        | some _ => ([], st)
        | none =>
          let ps := typeParamsList tparams
          if ["Array", "Function", "Object", "Set", "Map", "WeakSet", "WeakMap", "Date", "Promise", "Error", "RegExp"].contains n
          then ([some n], st)
          else if ["Partial", "Required", "Readonly", "Record", "Pick", "Omit", "InstanceType"].contains n
          then ([some "Object"], st)
          else if ["Uppercase", "Lowercase", "Capitalize", "Uncapitalize"].contains n then ([some "String"], st)
          else if ["Parameters", "ConstructorParameters"].contains n then ([some "Array"], st)
          else if n == "NonNullable" then
            match ps.head? with
            | some p => let (ts, st) := inferRuntime fuel st p; (ts.filter (·.isSome), st)
            | none => ([some "Object"], st)
          else if n == "Exclude" || n == "OmitThisParameter" then
            match ps.head? with
            | some p => inferRuntime fuel st p
            | none => ([some "Object"], st)
          else if n == "Extract" then
            match ps[1]? with
            | some p => inferRuntime fuel st p
            | none => ([some "Object"], st)
          else ([some "Object"], st)
    | .mk .tsParen _ [t] => inferRuntime fuel st t
    | .mk .tsOptional _ [t] => inferRuntime fuel st t
    | .mk .tsUnion _ [.mk .list _ types] =>
      types.foldl (fun (acc : List RT × St) t =>
        let (more, st) := inferRuntime fuel acc.2 t; (rtExtend acc.1 more, st)) ([], st)
    | .mk .tsIntersection _ [.mk .list _ types] =>
      types.foldl (fun (acc : List RT × St) t =>
        let (more, st) := inferRuntime fuel acc.2 t; (rtExtend acc.1 more, st)) ([], st)
    | .mk .tsIndexed _ [objT, idxT] =>
      -- an access that can't be followed: no runtime check, rather than `type: []` which no value passes
      let orAny (r : List RT × St) : List RT × St := if r.1.isEmpty then ([some ANY_TYPE], r.2) else r
      match resolveIndexed fuel st objT idxT with
      | (some t, st) => orAny (inferRuntime fuel st t)
      | (none, st) => ([some ANY_TYPE], st)
    -- a rest element of an indexed tuple: `[A, ...B[]][1]` is `B`
    | .mk (.other "TsRestType") _ [.mk .tsArray _ [elem]] => inferRuntime fuel st elem
    | .mk (.other "TsRestType") _ _ => ([some ANY_TYPE], st)
    | _ => ([some "Object"], st)

/-! ### props object -/

structure PropIr where
  key : Node
  types : List RT
  required : Bool
  deriving Inhabited

/-- `extract_prop_name(expr, computed)` -/
def extractPropName (key : Node) (computed : Bool) (st : St) : Node × St :=
  match key with
  | .mk .ident (n :: r) ks => if computed then (nComputed (.mk .ident (n :: r) ks), st) else (nIdentName n, st)
  | .mk .str as ks => (.mk .str as ks, st)
  | .mk .num as ks => (.mk .num as ks, st)
  | .mk .bigint as ks => (.mk .bigint as ks, st)
  | k => if computed then (nComputed k, st) else (nIdentName "", st.err "Error: Unsupported prop key.")

def irUpdate (irs : List PropIr) (key : Node) (f : PropIr → PropIr) (fresh : PropIr) : List PropIr :=
  if irs.any (fun ir => ir.key == key) then
    -- only the FIRST entry with an equal key is updated (`iter_mut().find`)
    let rec go : List PropIr → List PropIr
      | [] => []
      | ir :: rest => if ir.key == key then f ir :: rest else ir :: go rest
    go irs
  else irs ++ [fresh]

def rtExpr (t : RT) : Node :=
  match t with
  | some n => nQuoteIdent n
  | none => nNull

/-- does the default entry named `dname` belong to the prop named `pname`? -/
def defaultMatches (dname pname : Node) : Bool :=
  dname == pname ||
    match dname, pname with
    | .mk .ident (a :: _) _, .mk .str (b :: _) _ => a == b
    | .mk .str (a :: _) _, .mk .ident (b :: _) _ => a == b
    | _, _ => false

/-- the `default` written for a matched entry: Vue doesn't call the default of a `Function` prop as a factory, so
    there a factory is undone (an expression body is the value; a getter's block is called in place) -/
def finalDefault (isFunctionProp : Bool) (dflt : Node) (isFactory : Bool) : Node :=
  match dflt with
  | .mk .arrow _ [_, body, _, _] =>
    if isFactory && isFunctionProp then (match body with | .mk .block _ _ => nCall dflt [] | v => v) else dflt
  | d => d

/-- the list written into `type:` — `any` / `unknown` anywhere means no check at all (`type: null`) -/
def emittedTypes (types : List RT) : List RT := if types.contains (some ANY_TYPE) then [none] else types

/-- one resolved member folded into the prop table (`build_props_type`, first half) -/
def propStep (acc : List PropIr × St) (m : Node) : List PropIr × St :=
  let (irs, st) := acc
  match m with
  | .mk .tsPropSig [_, comp, opt] [key, ann] =>
    let (pname, st) := extractPropName key (comp == "true") st
    let (types, st) :=
      match typeAnnInner ann with
      | some t => inferRuntime FUEL st t
      | none => ([some ANY_TYPE], st)          -- no annotation: implicitly `any`
    let optional := opt == "true"
    (irUpdate irs pname
      (fun ir => { ir with required := if optional then false else ir.required, types := rtExtend ir.types types })
      { key := pname, types := types, required := !optional }, st)
  | .mk .tsGetterSig [comp] [key, ann] =>
    let (pname, st) := extractPropName key (comp == "true") st
    let (types, st) :=
      match typeAnnInner ann with
      | some t => inferRuntime FUEL st t
      | none => ([some ANY_TYPE], st)
    (irUpdate irs pname (fun ir => { ir with types := rtExtend ir.types types })
      { key := pname, types := types, required := true }, st)
  | .mk .tsMethodSig [comp, opt] (key :: _) =>
    let (pname, st) := extractPropName key (comp == "true") st
    let optional := opt == "true"
    (irUpdate irs pname
      (fun ir => { ir with required := if optional then false else ir.required,
                           types := rtInsert (some "Function") ir.types })
      { key := pname, types := [some "Function"], required := !optional }, st)
  | _ => (irs, st)

/-- the `type:` expression: a single constructor (or `null`) as such, several as an array -/
def typeExprOf (types : List RT) : Node :=
  match types with
  | [t] => rtExpr t
  | ts => nArray (ts.map fun t => nArg (rtExpr t))

/-- `is_function_prop`: the emitted `type` is exactly `Function` (the only case in which Vue does not call a function default) -/
def isExactlyFunction (types : List RT) : Bool := types == [some "Function"]

/-- one entry of the emitted props object (`build_props_type`, second half) -/
def emitProp (defaults : Option (List (Node × Node × Bool))) (ir : PropIr) : Node :=
  let types := emittedTypes ir.types
  let isFunctionProp := isExactlyFunction types
  let tyExpr := typeExprOf types
  let inner := [nKV (nIdentName "type") tyExpr, nKV (nIdentName "required") (nBool ir.required)]
  let inner :=
    match defaults with
    | some ds =>
      match ds.find? (fun d => defaultMatches d.1 ir.key) with
      | some (_, dflt, isFactory) => inner ++ [nKV (nIdentName "default") (finalDefault isFunctionProp dflt isFactory)]
      | none => inner
    | none => inner
  nKV ir.key (nObject inner)

/-- `build_props_type(type_ann, defaults)`; `ty` is the annotated type -/
def buildPropsType (st : St) (ty : Node) (defaults : Option (List (Node × Node × Bool))) : Node × St :=
  let (elems, st) := resolveElements FUEL st ty
  let (irs, st) := elems.foldl propStep ([], st)
  (nObject (irs.map (emitProp defaults)), st)

/-! ### defaults -/

def isLit : Node → Bool
  | .mk .str _ _ => true
  | .mk .num _ _ => true
  | .mk .bool _ _ => true
  | .mk .null _ _ => true
  | .mk .bigint _ _ => true
  | .mk .regex _ _ => true
  | .mk .jsxText _ _ => true
  | _ => false

/-- `try_unwrap_lit_prop_name` -/
def tryUnwrapLitPropName (key : Node) : Option Node :=
  match key with
  | .mk .ident _ _ => some key
  | .mk .str _ _ => some key
  | .mk .num _ _ => some key
  | .mk .bigint _ _ => some key
  | .mk .computed _ [e] =>
    match e with
    | .mk .str _ _ => some e          -- `[name]: v` with an identifier is a dynamic key
    | .mk .num _ _ => some e
    | .mk .bigint _ _ => some e
    | _ => none
  | _ => none

/-- one property of the defaults object literal → (key, default expression, is-a-factory-around-the-value),
    or `none` if not static -/
def staticDefault (p : Node) : Option (Node × Node × Bool) :=
  match p with
  | .mk .ident (n :: b :: _) _ => some (nIdentName n, nArrow [] (nIdent n b), true)          -- shorthand
  | .mk .kv _ [key, value] =>
    (tryUnwrapLitPropName key).map fun k => (k, (if isLit value then value else nArrow [] value), !isLit value)
  | .mk .getterProp _ [key, _, body] =>
    match body with
    | .mk .block _ _ => (tryUnwrapLitPropName key).map fun k => (k, nArrow [] body, true)
    | _ => none
  | .mk .methodProp as (key :: fnKids) =>
    (tryUnwrapLitPropName key).map fun k => (k, .mk .fnExpr as (nNone :: fnKids), false)
  | _ => none

def allStatic : List Node → Option (List (Node × Node × Bool))
  | [] => some []
  | p :: rest =>
    match staticDefault p, allStatic rest with
    | some d, some ds => some (d :: ds)
    | _, _ => none

/-- type annotation carried by a pattern (`extract_type_ann_from_pat`) -/
def patTypeAnn (fuel : Nat) (pat : Node) : Option Node :=
  match fuel with
  | 0 => none
  | fuel + 1 =>
    match pat with
    | .mk .ident _ [ann] => typeAnnInner ann
    | .mk .objectPat _ [_, ann] => typeAnnInner ann
    | .mk .arrayPat _ [_, ann] => typeAnnInner ann
    | .mk .assignPat _ [left, _] => patTypeAnn fuel left
    | _ => none

/-- the parameter patterns of the setup function (arrow or function expression) -/
def setupParams (arg : Node) : Option (List Node) :=
  match arg with
  | .mk .arg _ [.mk .arrow _ (.mk .list _ params :: _)] => some params
  | .mk .arg _ [.mk .fnExpr _ (_ :: .mk .list _ params :: _)] =>
    some (params.map fun p => match p with | .mk .param _ [_, pat] => pat | p => p)
  | _ => none

/-- `extract_props_type` -/
def extractPropsType (env : Env) (setupArg : Node) (st : St) : Option Node × St :=
  match (setupParams setupArg).bind (·.head?) with
  | none => (none, st)
  | some pat =>
    let defaults : Option Node := match pat with | .mk .assignPat _ [_, r] => some r | _ => none
    match patTypeAnn 64 pat with
    | none => (none, st)
    | some ty =>
      let staticDs : Option (Option (List (Node × Node × Bool))) :=     -- none: no defaults; some none: dynamic
        defaults.map fun d =>
          match d with
          | .mk .object _ [.mk .list _ props] => allStatic props
          | _ => none
      match defaults, staticDs with
      | some _, some (some ds) =>
        let (obj, st) := buildPropsType st ty (some ds)
        (some obj, st)
      | some d, _ =>
        let (md, st) := st.importFromVue "mergeDefaults"
        let (obj, st) := buildPropsType st ty none
        -- with a comments store the call carries a non-dummy span (for the PURE annotation)
        (some (.mk .call [if env.hasComments then "usr" else "syn"] [md, nList [nArg obj, nArg d], nNone]), st)
      | none, _ =>
        let (obj, st) := buildPropsType st ty none
        (some obj, st)

/-- the event names one resolved member of `E` contributes -/
def emitStep (acc : List String × St) (m : Node) : List String × St :=
  match m with
  | .mk .tsCallSig _ (.mk .list _ params :: _) =>
    let pann : Option Node :=
      match params.head? with
      | some (.mk .ident _ [a]) => typeAnnInner a
      | some (.mk .arrayPat _ [_, a]) => typeAnnInner a
      | some (.mk .restPat _ [_, a]) => typeAnnInner a
      | some (.mk .objectPat _ [_, a]) => typeAnnInner a
      | _ => none
    match pann with
    | some t => let (ns, st) := resolveStrings FUEL acc.2 t; (acc.1 ++ ns, st)
    | none => acc
  | .mk .tsGetterSig _ _ => acc
  | m =>
    match memberKeyName m with
    | some (some k) => (acc.1 ++ [k], acc.2)
    | _ => acc

/-- `extract_emits_type` -/
def extractEmitsType (setupArg : Node) (st : St) : Option Node × St :=
  let second : Option Node := (setupParams setupArg).bind (·[1]?)
  let ann : Option Node :=
    match second with
    | some (.mk .ident _ [a]) => typeAnnInner a
    | some (.mk .arrayPat _ [_, a]) => typeAnnInner a
    | some (.mk .objectPat _ [_, a]) => typeAnnInner a
    | _ => none
  match ann with
  | some (.mk .tsTypeRef _ [.mk .ident (n :: _) _, .mk .tsTypeParamInst _ [.mk .list _ ps]]) =>
    if n != "SetupContext" then (none, st) else
    match ps.head? with
    | none => (none, st)
    | some emitsDef =>
      let (elems, st) := resolveElements FUEL st emitsDef
      let (names, st) := elems.foldl emitStep ([], st)
      (some (nArray (names.map fun n => nArg (nStr n))), st)
  | _ => (none, st)

/-! ### the `defineComponent` hooks -/

/-- `is_define_component_call` -/
def isDefineComponentCall (st : St) (call : Node) : Bool :=
  match call with
  | .mk .call _ (.mk .ident (n :: b :: _) _ :: _) =>
    match st.defineComponent with
    | some ctxt => ctxt == b && n == "defineComponent"
    | none => false
  | _ => false

/-- `is_option_named(prop, name)`: does this entry define the option, however it is spelled? -/
def isOptionNamed (p : Node) (name : String) : Bool :=
  let keyIs (k : Node) : Bool :=
    match k with
    | .mk .ident (n :: _) _ => n == name
    | .mk .str (v :: _) _ => v == name
    | .mk .computed _ [.mk .str (v :: _) _] => v == name
    -- [`name`]: a template literal without substitutions
    | .mk .computed _ [.mk .tsTplLit _ [.mk .list _ [], .mk .list _ [.mk (.other "TemplateElement") (_ :: cooked :: _) _]]] => cooked == name
    | _ => false
  match p with
  | .mk .ident (n :: _) _ => n == name                       -- shorthand
  | .mk .kv _ (k :: _) => keyIs k
  | .mk .getterProp _ (k :: _) => keyIs k
  | .mk .methodProp _ (k :: _) => keyIs k
  | _ => false

/-- `may_define_any_option`: a spread, or an entry whose key is computed from something other than a literal -/
def isSpreadProp : Node → Bool
  | .mk .spreadElement _ _ => true
  | .mk .kv _ (k :: _) => dynKey k
  | .mk .getterProp _ (k :: _) => dynKey k
  | .mk .setterProp _ (k :: _) => dynKey k
  | .mk .methodProp _ (k :: _) => dynKey k
  | _ => false
where
  dynKey (k : Node) : Bool :=
    match k with
    | .mk .computed _ [e] =>
      if isLit e then false else
      match e with
      | .mk .tsTplLit _ (.mk .list _ exprs :: _) => !exprs.isEmpty
      | _ => true
    | _ => false

/-- insert before the first spread (or entry with a key computed at run time), or append when there is none -/
def insertBeforeFirstSpread (props : List Node) (entry : Node) : List Node :=
  match props with
  | [] => [entry]
  | p :: rest => if isSpreadProp p then entry :: p :: rest else p :: insertBeforeFirstSpread rest entry

/-- `can_inject_define_component_option(call, name)` -/
def canInjectOption (call : Node) (name : String) : Bool :=
  match call with
  | .mk .call _ [_, .mk .list _ args, _] =>
    let isSpreadArg (a : Node) : Bool := match a with | .mk .spreadArg _ _ => true | _ => false
    if args.isEmpty || (args.take 2).any isSpreadArg then false else
    match (args[1]? : Option Node) with
    | some (.mk .arg _ [.mk .object _ [.mk .list _ props]]) => !props.any (isOptionNamed · name)
    | _ => true
  | _ => false

/-- `inject_define_component_option(call, name, value)` -/
def injectOption (call : Node) (name : String) (value : Node) : Node :=
  if !canInjectOption call name then call else
  match call with
  | .mk .call as [callee, .mk .list las args, ta] =>
    let entry := nKV (nIdentName name) value
    match (args[1]? : Option Node) with
    | some (.mk .arg _ [.mk .object oas [.mk .list pas props]]) =>
      .mk .call as [callee, .mk .list las (args.take 1 ++ [nArg (.mk .object oas [.mk .list pas (insertBeforeFirstSpread props entry)])] ++ args.drop 2), ta]
    | some (.mk .arg _ [e]) =>
      .mk .call as [callee, .mk .list las (args.take 1 ++ [nArg (nObject [entry, nSpreadElement e])] ++ args.drop 2), ta]
    | some _ => call
    | none => .mk .call as [callee, .mk .list las (args ++ [nArg (nObject [entry])]), ta]
  | c => c

/-- `visit_mut_call_expr` after its children -/
def callHook (o : Opts) (env : Env) (call : Node) (st : St) : Node × St :=
  if !o.resolveType then (call, st) else
  if !isDefineComponentCall st call then (call, st) else
  match call with
  | .mk .call _ [_, .mk .list _ (first :: _), _] =>
    let (props, st) := if canInjectOption call "props" then extractPropsType env first st else (none, st)
    let (emits, st) := if canInjectOption call "emits" then extractEmitsType first st else (none, st)
    let call := match props with | some p => injectOption call "props" p | none => call
    let call := match emits with | some e => injectOption call "emits" e | none => call
    (call, st)
  | _ => (call, st)

/-- `visit_mut_var_declarator` after its children -/
def declaratorHook (o : Opts) (d : Node) (st : St) : Node × St :=
  if !o.resolveType then (d, st) else
  match d with
  | .mk .declarator das [.mk .ident (n :: ir) iks, .mk .call cas cks] =>
    if isDefineComponentCall st (.mk .call cas cks) then
      (.mk .declarator das [.mk .ident (n :: ir) iks, injectOption (.mk .call cas cks) "name" (nStr n)], st)
    else (d, st)
  | d => (d, st)

mutual
def allNodes : Node → List Node
  | .mk k as ks => .mk k as ks :: allNodesL ks
def allNodesL : List Node → List Node
  | [] => []
  | n :: ns => allNodes n ++ allNodesL ns
end

/-- `TypeDeclCollector::visit_ts_interface_decl` -/
def ifaceHook (n : Node) (st : St) : St :=
  match n with
  | .mk .tsIface as [id, tp, .mk .list eas ext, .mk .tsIfaceBody bas [.mk .list las members]] =>
    let key := (identName id, identBind id)
    match lookupReg st.interfaces key with
    | some (.mk .tsIface as0 [id0, tp0, .mk .list eas0 ext0, .mk .tsIfaceBody bas0 [.mk .list las0 members0]]) =>
      let merged := Node.mk .tsIface as0 [id0, tp0, .mk .list eas0 (ext0 ++ ext), .mk .tsIfaceBody bas0 [.mk .list las0 (members0 ++ members)]]
      { st with interfaces := st.interfaces.map fun p => if p.1 == key then (p.1, merged) else p }
    | some _ => st
    | none => { st with interfaces := st.interfaces ++ [(key, .mk .tsIface as [id, tp, .mk .list eas ext, .mk .tsIfaceBody bas [.mk .list las members]])] }
  | _ => st

/-- `TypeDeclCollector::visit_ts_type_alias_decl` -/
def aliasHook (n : Node) (st : St) : St :=
  match n with
  | .mk .tsAlias _ [id, _, ty] =>
    let key := (identName id, identBind id)
    if (lookupReg st.typeAliases key).isSome then
      { st with typeAliases := st.typeAliases.map fun p => if p.1 == key then (p.1, ty) else p }
    else { st with typeAliases := st.typeAliases ++ [(key, ty)] }
  | _ => st

/-- the up-front collection of every interface and type alias of the module, in any scope (`TypeDeclCollector`) -/
def collectTypes (m : Node) (st : St) : St :=
  (allNodes m).foldl (fun st d =>
    match d with
    | .mk .tsIface _ _ => ifaceHook d st
    | .mk .tsAlias _ _ => aliasHook d st
    | _ => st) st

end VueJsx
