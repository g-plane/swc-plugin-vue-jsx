/-
  HintElement: simulation lemmas (C12) for tags, children and runtime directives.
-/
import VueJsx.Lemmas.HintSim
import VueJsx.Lemmas.ElementEqs
import VueJsx.Props.C12

namespace VueJsx

theorem memberProp_rel {a b : Node} (h : HintRel a b) : HintRel (memberProp a) (memberProp b) := by
  unfold memberProp
  split
  · obtain ⟨_, _, hl⟩ := h
    dsimp only
    split
    · exact .node _ _ hl
    · exact .refl _
  · rename_i hne
    split
    · obtain ⟨_, _, _⟩ := h; exact (hne _ _ _ rfl).elim
    · exact h

/-- `ih`: `memberObj` calls `jsxMemberToExpr` back when the object is no identifier -/
theorem memberObj_rel {a b : Node} (h : HintRel a b) (ih : HintRel (jsxMemberToExpr a) (jsxMemberToExpr b)) :
    HintRel (memberObj a) (memberObj b) := by
  unfold memberObj
  split
  · obtain ⟨_, _, _⟩ := h; exact .refl _
  · rename_i h0
    obtain ⟨_, _, _⟩ := h
    split
    · rename_i heq; cases heq; exact (h0 _ rfl).elim
    · rename_i heq; cases heq; exact .refl _
    · rename_i h2; exact (h2 _ _ rfl).elim
  · rename_i h1 h2
    split
    · obtain ⟨_, _, _⟩ := h; exact (h1 _ _ rfl).elim
    · obtain ⟨_, _, _⟩ := h; exact (h2 _ _ rfl).elim
    · exact ih

theorem jsxMemberToExpr_rel {a b : Node} (h : HintRel a b) : HintRel (jsxMemberToExpr a) (jsxMemberToExpr b) := by
  -- the model's equations are stated by kind (`jsxMemberToExpr_other`), so the split is on that one kind
  rcases h.kind_cases .jsxMember (by decide) with ⟨as, ks1, ks2, rfl, rfl, hl⟩ | ⟨ha, hb⟩
  · obtain _ | ⟨h1, _ | ⟨h2, _ | ⟨h3, hl⟩⟩⟩ := hl
    · exact .refl _
    · rw [jsxMemberToExpr_badlen _ _ (by simp), jsxMemberToExpr_badlen _ _ (by simp)]; exact .node _ _ (.cons h1 .nil)
    · rw [jsxMemberToExpr_pair, jsxMemberToExpr_pair]
      exact .node _ _ (.cons (memberObj_rel h1 (jsxMemberToExpr_rel h1)) (.cons (memberProp_rel h2) .nil))
    · rw [jsxMemberToExpr_badlen _ _ (by simp), jsxMemberToExpr_badlen _ _ (by simp)]
      exact .node _ _ (.cons h1 (.cons h2 (.cons h3 hl)))
  · obtain ⟨k1, _, _⟩ := a
    obtain ⟨k2, _, _⟩ := b
    rw [jsxMemberToExpr_other k1 _ _ ha, jsxMemberToExpr_other k2 _ _ hb]; exact h
termination_by sizeOf a
decreasing_by subst_vars; simp only [Node.mk.sizeOf_spec, List.cons.sizeOf_spec]; omega  -- the default `decreasing_by` search is slow here

theorem memberRoot_rel {a b : Node} (h : HintRel a b) : memberRoot a = memberRoot b := by
  unfold memberRoot
  split
  · obtain ⟨_, _, _ | ⟨h1, _ | ⟨_, ⟨⟩ | _⟩⟩⟩ := h
    dsimp only
    split
    · obtain ⟨_, _, _⟩ := h1; rfl
    · obtain ⟨_, _, _⟩ := h1; rfl
    · rename_i n1 n2
      split
      · obtain ⟨_, _, _⟩ := h1; exact (n1 _ _ _ rfl).elim
      · obtain ⟨_, _, _⟩ := h1; exact (n2 _ rfl).elim
      · exact memberRoot_rel h1
  · rename_i hne
    split
    · obtain ⟨_, _, _ | ⟨_, _ | ⟨_, ⟨⟩ | _⟩⟩⟩ := h; exact (hne _ _ _ rfl).elim
    · rfl
termination_by sizeOf a
decreasing_by subst_vars; simp only [Node.mk.sizeOf_spec, List.cons.sizeOf_spec]; omega  -- (as above)

theorem memberRootCheck_rel {a b : Node} (h : HintRel a b) {s1 s2 : St} (hs : StSim s1 s2) :
    StSim (memberRootCheck a s1) (memberRootCheck b s2) := by
  unfold memberRootCheck
  rw [memberRoot_rel h]
  split
  · exact rel_ite (hs.err _) hs
  · exact hs

theorem transformTag_rel (env : Env) {n1 n2 : Node} (hn : HintRel n1 n2) {s1 s2 : St} (hs : StSim s1 s2) :
    HintRel (transformTag env n1 s1).1 (transformTag env n2 s2).1 ∧ StSim (transformTag env n1 s1).2 (transformTag env n2 s2).2 := by
  -- stated before the split: it and the inversions of `hn` rewrite `n1 n2` in them along with the goal
  have hj := jsxMemberToExpr_rel hn
  have hm := memberRootCheck_rel hn hs
  have frag := hs.importFromVue FRAGMENT
  have rc := hs.importFromVue "resolveComponent"
  show Sim HintRel _ _
  unfold transformTag
  split
  · obtain ⟨_, _, _⟩ := hn
    -- an identifier: known tag, `Fragment`, custom element, unresolved binding
    refine rel_ite ⟨.refl _, hs⟩ ?_
    refine rel_ite ⟨frag.1 ▸ .refl _, frag.2⟩ ?_
    refine rel_ite ⟨.refl _, hs⟩ ?_
    refine rel_ite ?_ ⟨.refl _, hs⟩
    dsimp only
    rw [rc.1]
    exact ⟨.refl _, rc.2⟩
  · obtain ⟨_, _, _⟩ := hn  -- a member
    exact ⟨hj, hm⟩
  · obtain ⟨_, _, _ | ⟨h1, _ | ⟨h2, ⟨⟩ | _⟩⟩⟩ := hn  -- a namespaced name
    rw [h1.identName, h2.identName]
    exact ⟨HintRel.refl _, hs⟩
  · rename_i h1 h2 h3  -- any other
    split
    · obtain ⟨_, _, _⟩ := hn; exact (h1 _ _ _ _ rfl).elim
    · obtain ⟨_, _, _⟩ := hn; exact (h2 _ _ rfl).elim
    · obtain ⟨_, _, _ | ⟨_, _ | ⟨_, ⟨⟩ | _⟩⟩⟩ := hn; exact (h3 _ _ _ rfl).elim
    · exact ⟨hn, hs⟩

theorem pushFlag_rel (o1 o2 : Opts) {s1 s2 : St} (h : StSim s1 s2) : StSim (pushFlag o1 s1) (pushFlag o2 s2) := by
  obtain ⟨x, hx⟩ := pushFlag_frame o1 s1
  obtain ⟨y, hy⟩ := pushFlag_frame o2 s2
  rw [hx, hy]; exact h.stack x y

theorem popFlag_rel (o1 o2 : Opts) {s1 s2 : St} (h : StSim s1 s2) : StSim (popFlag o1 s1).2 (popFlag o2 s2).2 := by
  obtain ⟨x, hx⟩ := popFlag_frame o1 s1
  obtain ⟨y, hy⟩ := popFlag_frame o2 s2
  rw [hx, hy]; exact h.stack x y

/-- One-sided: only the left run, with `optimize` on, fills the stack (`fillIfBound`). -/
theorem stackFill_rel_left {s1 s2 : St} (h : StSim s1 s2) : StSim (stackFill s1) s2 := h.stack _ s2.slotFlagStack

theorem getPragma_rel {o1 o2 : Opts} (ho : o1.pragma = o2.pragma) {s1 s2 : St} (h : StSim s1 s2) :
    (getPragma o1 s1).1 = (getPragma o2 s2).1 ∧ StSim (getPragma o1 s1).2 (getPragma o2 s2).2 := by
  unfold getPragma effPragma
  rw [h.same St.pragma, ho]
  split
  · exact rel_ite (R := Sim Eq) ⟨rfl, h⟩ ((h.err _).importFromVue _)
  · exact h.importFromVue _

theorem genSlotIdent_rel {s1 s2 : St} (hs : StSim s1 s2) : Sim Eq (genSlotIdent s1) (genSlotIdent s2) := by
  rw [hs.eq]; exact ⟨rfl, .of_eq hs.2⟩

theorem slotHelperOf_rel {s1 s2 : St} (hs : StSim s1 s2) : Sim Eq (slotHelperOf s1) (slotHelperOf s2) := by
  rw [hs.eq]; unfold slotHelperOf; dsimp only; split <;> exact ⟨rfl, .of_eq hs.2⟩

theorem rel_iifeInit {i1 i2 : Node} (h : HintRel i1 i2) :
    HintRel (nCall (nFnExpr [] [nReturn i1]) []) (nCall (nFnExpr [] [nReturn i2]) []) := by
  have body : HintRel (nBlock [nReturn i1]) (nBlock [nReturn i2]) := rel_nBlock (.cons (rel_nReturn h) .nil)
  have fn : HintRel (nFnExpr [] [nReturn i1]) (nFnExpr [] [nReturn i2]) :=
    .node _ _ ((HintRelL.refl [nNone, nList [], nList []]).append (.cons body (HintRelL.refl _)))
  exact .node _ _ (.cons fn (HintRelL.refl _))

theorem iifeStep_rel (left : Node) : ∀ {acc1 acc2 : List Node × St} {x1 x2 : Node}, Sim HintRelL acc1 acc2 → HintRel x1 x2 →
    Sim HintRelL (iifeStep left acc1 x1) (iifeStep left acc2 x2)
  | (_, _), (_, _), _, _, ⟨ho, hs⟩, hx => by
    unfold iifeStep
    dsimp only
    split
    · rename_i n _ _ _
      have hx' := hx
      obtain ⟨_, _, _ | ⟨⟨_, _, hk⟩, ⟨⟩ | _⟩⟩ := hx'
      dsimp only
      split
      · obtain ⟨f1, f2⟩ := hs.fresh ("_" ++ n)
        rw [f1]
        exact ⟨ho.snoc (.refl _), f2.pushConst (.node _ _ (.cons (.refl _) (.cons (rel_iifeInit (.node _ _ hk)) .nil)))⟩
      · exact ⟨ho.snoc hx, hs⟩
    · rename_i hne
      split
      · obtain ⟨_, _, _ | ⟨⟨_, _, _⟩, ⟨⟩ | _⟩⟩ := hx
        exact (hne _ _ _ _ _ rfl).elim
      · exact ⟨ho.snoc hx, hs⟩

theorem buildIife_rel {e1 e2 : List Node} (he : HintRelL e1 e2) {s1 s2 : St} (hs : StSim s1 s2) :
    Sim HintRelL (buildIife e1 s1) (buildIife e2 s2) := by
  rw [buildIife_eq, buildIife_eq, hs.same St.assignmentLeft]
  split
  · exact ⟨he, hs⟩
  · exact he.foldl (iifeStep_rel _) ⟨.nil, hs.setLeft none⟩

theorem slotProps_rel {sl1 sl2 : Option Node} (hsl : OptRel sl1 sl2) : HintRelL (slotProps sl1) (slotProps sl2) :=
  hsl.cases .nil fun hxy => by rw [slotProps_some, slotProps_some]; exact spreadEntries_rel hxy

theorem wrapBase_rel {e1 e2 : List Node} (he : HintRelL e1 e2) {sl1 sl2 : Option Node} (hsl : OptRel sl1 sl2) :
    HintRelL (wrapBase e1 sl1) (wrapBase e2 sl2) :=
  (HintRelL.cons (rel_nKV (HintRel.refl _) (rel_nArrow _ (rel_nArray he))) .nil).append (slotProps_rel hsl)

/-- `f1 f2` are unrelated: the flag goes into the `_` entry alone, which the right side lacks and `KidsRel.slots` lets be any -/
theorem wrapKids_rel (o : Opts) {e1 e2 : List Node} (he : HintRelL e1 e2) (f1 f2 : Nat) {sl1 sl2 : Option Node} (hsl : OptRel sl1 sl2) :
    KidsRel (wrapChildren { o with optimize := true } e1 f1 sl1) (wrapChildren { o with optimize := false } e2 f2 sl2) := by
  rw [wrapChildren_on rfl, wrapChildren_off rfl]
  exact KidsRel.slots _ _ (wrapBase_rel he hsl) (C12_hint_entry _)

theorem wrapOff_rel (o : Opts) (ho : o.optimize = false) {e1 e2 : List Node} (he : HintRelL e1 e2) (f1 f2 : Nat) {sl1 sl2 : Option Node} (hsl : OptRel sl1 sl2) :
    HintRel (wrapChildren o e1 f1 sl1) (wrapChildren o e2 f2 sl2) := by
  rw [wrapChildren_off ho, wrapChildren_off ho]
  exact rel_nObject (wrapBase_rel he hsl)

inductive KidsViewRel : KidsView → KidsView → Prop
  | none : KidsViewRel .none .none
  | ident {e1 e2 : Node} : HintRel e1 e2 → KidsViewRel (.ident e1) (.ident e2)
  | usrCall {e1 e2 : Node} : HintRel e1 e2 → KidsViewRel (.usrCall e1) (.usrCall e2)
  | fn {e1 e2 : Node} : HintRel e1 e2 → KidsViewRel (.fn e1) (.fn e2)
  | object {p1 p2 : List Node} : HintRelL p1 p2 → KidsViewRel (.object p1) (.object p2)
  | other : KidsViewRel .other .other

/-- a vnode call (the one place where related nodes differ in shape) is a synthetic call: `other` on both sides -/
theorem kidsView_rel {e1 e2 : List Node} (h : HintRelL e1 e2) : KidsViewRel (kidsView e1) (kidsView e2) := by
  fun_cases kidsView e1
  · show KidsViewRel .none _
    obtain ⟨⟩ | _ := h; exact .none
  · show KidsViewRel (.ident _) _
    obtain _ | ⟨⟨_, _, _ | ⟨he, ⟨⟩ | _⟩⟩, ⟨⟩ | _⟩ := h
    obtain ⟨_, _, hl⟩ := he
    exact .ident (.node _ _ hl)
  · show KidsViewRel (.usrCall _) _
    rename_i hsyn
    obtain _ | ⟨⟨_, _, _ | ⟨he, ⟨⟩ | _⟩⟩, ⟨⟩ | _⟩ := h
    obtain ⟨_, _, hl⟩ | _ := he
    · unfold kidsView; dsimp only; rw [if_pos hsyn]; exact .usrCall (.node _ _ hl)   -- `HintRel.node`
    · exact absurd hsyn (by decide)   -- `HintRel.vnode`: its atoms start with "syn"
  · show KidsViewRel .other _  -- synthetic call
    rename_i hsyn
    obtain _ | ⟨⟨_, _, _ | ⟨he, ⟨⟩ | _⟩⟩, ⟨⟩ | _⟩ := h
    obtain ⟨_, _, _⟩ | _ := he
    · unfold kidsView; dsimp only; rw [if_neg hsyn]; exact .other   -- `node`
    · exact .other   -- `vnode`
  · show KidsViewRel (.fn (.mk .fnExpr _ _)) _
    obtain _ | ⟨⟨_, _, _ | ⟨he, ⟨⟩ | _⟩⟩, ⟨⟩ | _⟩ := h
    obtain ⟨_, _, hl⟩ := he
    exact .fn (.node _ _ hl)
  · show KidsViewRel (.fn (.mk .arrow _ _)) _
    obtain _ | ⟨⟨_, _, _ | ⟨he, ⟨⟩ | _⟩⟩, ⟨⟩ | _⟩ := h
    obtain ⟨_, _, hl⟩ := he
    exact .fn (.node _ _ hl)
  · show KidsViewRel (.object _) _
    obtain _ | ⟨⟨_, _, _ | ⟨he, ⟨⟩ | _⟩⟩, ⟨⟩ | _⟩ := h
    obtain ⟨_, _, _ | ⟨⟨_, _, hp⟩, ⟨⟩ | _⟩⟩ := he
    exact .object hp
  · show KidsViewRel .other _  -- other argument
    rename_i h1 h2 h3 h4 h5
    obtain _ | ⟨⟨_, _, _ | ⟨he, ⟨⟩ | _⟩⟩, ⟨⟩ | _⟩ := h
    unfold kidsView
    split
    · obtain ⟨_, _, _⟩ := he; exact (h1 _ _ rfl).elim
    · obtain ⟨_, _, _⟩ | _ := he
      · exact (h2 _ _ _ rfl).elim
      · exact (h2 _ _ _ rfl).elim
    · obtain ⟨_, _, _⟩ := he; exact (h3 _ _ rfl).elim
    · obtain ⟨_, _, _⟩ := he; exact (h4 _ _ rfl).elim
    · obtain ⟨_, _, _ | ⟨⟨_, _, _⟩, ⟨⟩ | _⟩⟩ := he; exact (h5 _ _ _ rfl).elim
    · exact .other
  · show KidsViewRel .other _  -- other list
    rename_i h1 h2
    unfold kidsView
    split
    · obtain ⟨⟩ | _ := h; exact (h1 rfl).elim
    · obtain _ | ⟨⟨_, _, _ | ⟨_, ⟨⟩ | _⟩⟩, ⟨⟩ | _⟩ := h; exact (h2 _ _ rfl).elim
    · exact .other

theorem wrapCond_rel (o : Opts) {t1 t2 c1 c2 : Node} (ht : HintRel t1 t2) (hc : HintRel c1 c2) {e1 e2 : List Node} (he : HintRelL e1 e2)
    (f1 f2 : Nat) {sl1 sl2 : Option Node} (hsl : OptRel sl1 sl2) :
    KidsRel (nCond t1 c1 (wrapChildren { o with optimize := true } e1 f1 sl1)) (nCond t2 c2 (wrapChildren { o with optimize := false } e2 f2 sl2)) := by
  rw [wrapChildren_on rfl, wrapChildren_off rfl]
  exact KidsRel.cond _ _ _ ht hc (wrapBase_rel he hsl) (C12_hint_entry _)

theorem finishIdent_rel (o : Opts) {x1 x2 : Node} (hx : HintRel x1 x2) {e1 e2 : List Node} (he : HintRelL e1 e2) (c : Bool)
    {sl1 sl2 : Option Node} (hsl : OptRel sl1 sl2) (f1 f2 : Nat) {s1 s2 : St} (hs : StSim s1 s2) :
    Sim KidsRel (finishIdent { o with optimize := true } x1 e1 c sl1 f1 s1) (finishIdent { o with optimize := false } x2 e2 c sl2 f2 s2) := by
  have iife := buildIife_rel he hs
  have helper := slotHelperOf_rel iife.2
  unfold finishIdent
  dsimp only
  rw [helper.1]
  exact rel_ite (rel_ite
    ⟨wrapCond_rel o (rel_nCall _ (.cons (rel_nArg hx) .nil)) hx iife.1 f1 f2 hsl, helper.2⟩
    ⟨wrapKids_rel o iife.1 f1 f2 hsl, iife.2⟩) ⟨.same (rel_nArray he), hs⟩

theorem finishCall_rel (o : Opts) {x1 x2 : Node} (hx : HintRel x1 x2) {e1 e2 : List Node} (he : HintRelL e1 e2) (c : Bool)
    {sl1 sl2 : Option Node} (hsl : OptRel sl1 sl2) (f1 f2 : Nat) {s1 s2 : St} (hs : StSim s1 s2) :
    Sim KidsRel (finishCall { o with optimize := true } x1 e1 c sl1 f1 s1) (finishCall { o with optimize := false } x2 e2 c sl2 f2 s2) := by
  have slot := genSlotIdent_rel hs
  have helper := slotHelperOf_rel slot.2
  unfold finishCall
  dsimp only
  rw [helper.1, slot.1]
  have iife := buildIife_rel (HintRelL.refl [nArg (genSlotIdent s2).1]) helper.2
  exact rel_ite (rel_ite
    ⟨wrapCond_rel o (rel_nCall _ (.cons (rel_nArg (rel_nAssignParen (.refl _) hx)) .nil)) (.refl _) iife.1 f1 f2 hsl, iife.2⟩
    ⟨wrapKids_rel o he f1 f2 hsl, hs⟩) ⟨.same (rel_nArray he), hs⟩

theorem finishChildren_rel (o : Opts) {e1 e2 : List Node} (he : HintRelL e1 e2) (c : Bool) {sl1 sl2 : Option Node} (hsl : OptRel sl1 sl2)
    (f1 f2 : Nat) {s1 s2 : St} (hs : StSim s1 s2) :
    KidsRel (finishChildren { o with optimize := true } e1 c sl1 f1 s1).1 (finishChildren { o with optimize := false } e2 c sl2 f2 s2).1 ∧
      StSim (finishChildren { o with optimize := true } e1 c sl1 f1 s1).2 (finishChildren { o with optimize := false } e2 c sl2 f2 s2).2 := by
  rw [finishChildren_eq, finishChildren_eq]
  have hview := kidsView_rel he
  generalize kidsView e1 = v1 at hview ⊢
  generalize kidsView e2 = v2 at hview ⊢
  cases hview with
  | none =>
    exact ⟨hsl.cases (.same (.refl nNull)) fun hxy => .same hxy, hs⟩
  | ident hx => exact finishIdent_rel o hx he c hsl f1 f2 hs
  | usrCall hx => exact finishCall_rel o hx he c hsl f1 f2 hs
  | fn hx => exact ⟨.same (rel_nObject (.cons (rel_nKV (HintRel.refl _) hx) (slotProps_rel hsl))), hs⟩
  | @object p1 p2 hp =>
    refine ⟨?_, hs⟩
    show KidsRel (nObject ((p1 ++ slotProps sl1) ++ [hintEntry f1])) (nObject (p2 ++ slotProps sl2))
    exact KidsRel.slots _ _ (hp.append (slotProps_rel hsl)) (C12_hint_entry _)
  | other => exact rel_ite (R := Sim KidsRel) ⟨wrapKids_rel o he f1 f2 hsl, hs⟩ ⟨.same (rel_nArray he), hs⟩

theorem typeAttrStep_rel {a b : Node} (h : HintRel a b) : OptRel (typeAttrStep a) (typeAttrStep b) := by
  unfold typeAttrStep
  split
  · obtain ⟨_, _, _ | ⟨⟨_, _, _⟩, _ | ⟨hv, ⟨⟩ | _⟩⟩⟩ := h
    rw [hv.isNone]
    exact rel_ite (R := OptRel) hv .none
  · rename_i hne
    split
    · obtain ⟨_, _, _ | ⟨⟨_, _, _⟩, _ | ⟨_, ⟨⟩ | _⟩⟩⟩ := h
      exact (hne _ _ _ _ _ rfl).elim
    · exact .none

theorem typeAttrOf_rel {a b : List Node} (h : HintRelL a b) : OptRel (typeAttrOf a) (typeAttrOf b) := by
  rw [typeAttrOf_eq, typeAttrOf_eq]
  induction h using HintRelL.induct with
  | nil => exact .none
  | cons hx _ ih =>
    rw [List.findSome?_cons, List.findSome?_cons]
    exact (typeAttrStep_rel hx).cases ih fun huv => huv

theorem tagIdentOf_rel {a b : Node} (h : HintRel a b) : tagIdentOf a = tagIdentOf b := by
  unfold tagIdentOf
  split
  · obtain ⟨_, _, _⟩ := h; rfl
  · rename_i hne
    split
    · obtain ⟨_, _, _⟩ := h; exact (hne _ _ _ rfl).elim
    · rfl

theorem modelByType_rel {v1 v2 : Option Node} (h : OptRel v1 v2) {s1 s2 : St} (hs : StSim s1 s2) :
    Sim Eq (modelByType v1 s1) (modelByType v2 s2) := by
  refine h.cases (hs.importFromVue _) fun hxy => ?_
  unfold modelByType
  split
  · rename_i heq; cases heq
    obtain ⟨_, _, _⟩ := hxy
    exact rel_ite (hs.importFromVue _) (rel_ite (hs.importFromVue _) (hs.importFromVue _))
  · rename_i heq; cases heq
  · rename_i hne heq
    cases heq
    split
    · rename_i heq; cases heq
      obtain ⟨_, _, _⟩ := hxy; exact (hne _ _ _ rfl).elim
    · rename_i heq; cases heq
    · exact hs.importFromVue _

theorem resolveDirective_rel (name : String) {t1 t2 : Node} (ht : HintRel t1 t2) {a1 a2 : List Node} (ha : HintRelL a1 a2)
    {s1 s2 : St} (hs : StSim s1 s2) : Sim Eq (resolveDirective name t1 a1 s1) (resolveDirective name t2 a2 s2) := by
  rw [resolveDirective_eq, resolveDirective_eq, tagIdentOf_rel ht]
  have rd := hs.importFromVue "resolveDirective"
  exact rel_ite (hs.importFromVue _) <| rel_ite
    (rel_ite (hs.importFromVue _) <| rel_ite (hs.importFromVue _) (modelByType_rel (typeAttrOf_rel ha) hs))
    ⟨by rw [rd.1], rd.2⟩

theorem optArg_rel {o1 o2 : Option Node} (h : OptRel o1 o2) : HintRelL (optArg o1) (optArg o2) :=
  h.cases .nil fun hxy => .cons (rel_nArg hxy) .nil

theorem dirEntries_rel {t1 t2 : Node} (ht : HintRel t1 t2) {a1 a2 : List Node} (ha : HintRelL a1 a2)
    {d1 d2 : List (String × Option Node × Option Node × Node)} (hd : DirsRel d1 d2) {s1 s2 : St} (hs : StSim s1 s2) :
    HintRelL (dirEntries t1 a1 d1 s1).1 (dirEntries t2 a2 d2 s2).1 ∧ StSim (dirEntries t1 a1 d1 s1).2 (dirEntries t2 a2 d2 s2).2 := by
  induction hd generalizing s1 s2 with
  | nil => exact ⟨.nil, hs⟩
  | cons n1 har hm hv _ ih =>
    rw [dirEntries_cons, dirEntries_cons]
    have d := resolveDirective_rel n1 ht ha hs
    have more := ih d.2
    dsimp only
    rw [d.1]
    have head : HintRelL [nArg (resolveDirective n1 t2 a2 s2).1, nArg _] [nArg (resolveDirective n1 t2 a2 s2).1, nArg _] :=
      .cons (.refl _) (.cons (rel_nArg hv) .nil)
    have entry := (head.append (optArg_rel har)).append (optArg_rel hm)
    exact ⟨.cons (rel_nArg (rel_nArray entry)) more.1, more.2⟩

end VueJsx
