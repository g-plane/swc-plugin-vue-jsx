/-
  HintHooks: the C12 simulation for the hooks of the traversal that do not lower anything and for the module assembly.
-/
import VueJsx.Lemmas.HintSim
import VueJsx.Lemmas.VisitorEqs

namespace VueJsx

theorem StSim.clearPending {s1 s2 : St} (h : StSim s1 s2) : StSim s1.clearPending s2.clearPending := by
  rw [h.eq]; exact .of_eq .nil

theorem StSim.drained {s1 s2 : St} (h : StSim s1 s2) : StSim s1.drained s2.drained := by
  rw [h.eq]; exact .of_eq .nil

theorem pendingConsts_rel {s1 s2 : St} (h : StSim s1 s2) : HintRelL s1.pendingConsts s2.pendingConsts := by
  unfold St.pendingConsts
  rw [h.2.isEmpty]
  exact rel_ite (.cons (rel_nVarDecl _ h.2) .nil) .nil

theorem pendingDecls_rel {s1 s2 : St} (h : StSim s1 s2) : HintRelL s1.pendingDecls s2.pendingDecls := by
  unfold St.pendingDecls St.pendingVars
  rw [h.same St.injectingVars]
  exact (HintRelL.refl _).append (pendingConsts_rel h)

theorem pendingDeclsArrow_rel {s1 s2 : St} (h : StSim s1 s2) : HintRelL s1.pendingDeclsArrow s2.pendingDeclsArrow := by
  unfold St.pendingDeclsArrow St.pendingVars
  rw [h.same St.injectingVars]
  exact (pendingConsts_rel h).append (HintRelL.refl _)

theorem drainInto_rel {i1 i2 : List Node} (hi : HintRelL i1 i2) {s1 s2 : St} (hs : StSim s1 s2) :
    HintRelL (drainInto i1 s1).1 (drainInto i2 s2).1 ∧ StSim (drainInto i1 s1).2 (drainInto i2 s2).2 := by
  rw [drainInto_pending, drainInto_pending]
  exact ⟨(pendingDecls_rel hs).append hi, hs.drained⟩

theorem drainArrow_rel {n1 n2 : Node} (hn : HintRel n1 n2) {s1 s2 : St} (hs : StSim s1 s2) :
    HintRel (drainArrow n1 s1).1 (drainArrow n2 s2).1 ∧ StSim (drainArrow n1 s1).2 (drainArrow n2 s2).2 := by
  rw [drainArrow_pending, drainArrow_pending]
  have same := hn
  split
  · obtain ⟨_, _, _ | ⟨hp, _ | ⟨hb, _ | ⟨ht, _ | ⟨hr, ⟨⟩ | _⟩⟩⟩⟩⟩ := hn
    rw [hs.2.isEmpty, hs.same St.injectingVars]
    show Sim HintRel _ _
    refine rel_ite ?_ ⟨same, hs⟩
    split
    · obtain ⟨_, _, _⟩ := hb
      exact ⟨same, hs⟩
    · rename_i notBlock
      split
      · obtain ⟨_, _, _⟩ := hb
        exact (notBlock _ _ rfl).elim
      · have block := rel_nBlock ((pendingDeclsArrow_rel hs).snoc (rel_nReturn hb))
        exact ⟨.node _ _ (.cons hp (.cons block (.cons ht (.cons hr .nil)))), hs.drained⟩
  · rename_i hne
    split
    · obtain ⟨_, _, _ | ⟨_, _ | ⟨_, _ | ⟨_, _ | ⟨_, ⟨⟩ | _⟩⟩⟩⟩⟩ := hn
      exact (hne _ _ _ _ _ rfl).elim
    · exact ⟨same, hs⟩

theorem assignLeftOf_rel {a b : Node} (h : HintRel a b) : assignLeftOf a = assignLeftOf b := by
  unfold assignLeftOf
  split
  · obtain ⟨_, _, _ | ⟨⟨_, _, _⟩, _ | ⟨_, ⟨⟩ | _⟩⟩⟩ := h
    rfl
  · rename_i hne
    split
    · obtain ⟨_, _, _ | ⟨⟨_, _, _⟩, _ | ⟨_, ⟨⟩ | _⟩⟩⟩ := h
      exact (hne _ _ _ _ _ _ rfl).elim
    · rfl

theorem HintRelL.filterMap {f : Node → Option Node} (hf : ∀ x y, HintRel x y → OptRel (f x) (f y)) {a b : List Node} (h : HintRelL a b) :
    HintRelL (a.filterMap f) (b.filterMap f) := by
  induction h using HintRelL.induct with
  | nil => exact .nil
  | cons hx _ ih =>
    rw [List.filterMap_cons, List.filterMap_cons]
    exact (hf _ _ hx).cases ih fun huv => .cons huv ih

theorem isVModelsAttr_rel {a b : Node} (h : HintRel a b) : isVModelsAttr a = isVModelsAttr b := by
  unfold isVModelsAttr
  split
  · obtain ⟨_, _, _ | ⟨⟨_, _, _⟩, _ | ⟨_, ⟨⟩ | _⟩⟩⟩ := h
    rfl
  · rename_i hne
    split
    · obtain ⟨_, _, _ | ⟨⟨_, _, _⟩, _ | ⟨_, ⟨⟩ | _⟩⟩⟩ := h
      exact (hne _ _ _ _ _ rfl).elim
    · rfl

theorem findVModels_rel {a b : List Node} (h : HintRelL a b) (i : Nat) : findVModels a i = findVModels b i := by
  induction h using HintRelL.induct generalizing i with
  | nil => rfl
  | cons hx _ ih => rw [findVModels_cons, findVModels_cons, isVModelsAttr_rel hx, ih]

theorem vmValue_rel {a b : List Node} (h : HintRelL a b) (i : Nat) : HintRel (vmValue a[i]?) (vmValue b[i]?) := by
  refine (h.getElem?_rel i).cases (.refl _) fun hxy => ?_
  unfold vmValue
  split
  · rename_i heq; cases heq
    obtain ⟨_, _, _ | ⟨_, _ | ⟨hv, ⟨⟩ | _⟩⟩⟩ := hxy; exact hv
  · rename_i hne
    split
    · rename_i heq; cases heq
      obtain ⟨_, _, _ | ⟨_, _ | ⟨_, ⟨⟩ | _⟩⟩⟩ := hxy; exact (hne _ _ _ rfl).elim
    · exact .refl _

theorem decoupleStep_rel (x y : Node) (h : HintRel x y) : OptRel (decoupleStep x) (decoupleStep y) := by
  unfold decoupleStep
  split
  · obtain ⟨_, _, _ | ⟨harr, ⟨⟩ | _⟩⟩ := h
    obtain ⟨_, _, _ | ⟨⟨_, _, hl⟩, ⟨⟩ | _⟩⟩ := harr
    exact .node _ _ (.cons (HintRel.refl _) (.cons (.node _ _ (.cons (rel_nArray hl) .nil)) .nil))
  · rename_i hne
    split
    · obtain ⟨_, _, _ | ⟨harr, ⟨⟩ | _⟩⟩ := h
      obtain ⟨_, _, _ | ⟨⟨_, _, _⟩, ⟨⟩ | _⟩⟩ := harr
      exact (hne _ _ _ _ rfl).elim
    · exact .none

theorem decoupleVModels_rel {a b : List Node} (h : HintRelL a b) : HintRelL (decoupleVModels a) (decoupleVModels b) := by
  rw [decoupleVModels_eq, decoupleVModels_eq]
  exact h.filterMap decoupleStep_rel

theorem openingParts_rel {a b : Node} (h : HintRel a b) :
    (openingParts a = none ∧ openingParts b = none) ∨
    ∃ as las n1 n2 at1 at2 t1 t2, openingParts a = some (as, n1, las, at1, t1) ∧ openingParts b = some (as, n2, las, at2, t2) ∧
      HintRel n1 n2 ∧ HintRelL at1 at2 ∧ HintRel t1 t2 := by
  unfold openingParts
  split
  · obtain ⟨_, _, _ | ⟨hn, _ | ⟨⟨_, _, hat⟩, _ | ⟨ht, ⟨⟩ | _⟩⟩⟩⟩ := h
    exact .inr ⟨_, _, _, _, _, _, _, _, rfl, rfl, hn, hat, ht⟩
  · rename_i hne
    split
    · obtain ⟨_, _, _ | ⟨_, _ | ⟨⟨_, _, _⟩, _ | ⟨_, ⟨⟩ | _⟩⟩⟩⟩ := h
      exact (hne _ _ _ _ _ rfl).elim
    · exact .inl ⟨rfl, rfl⟩

theorem rel_opening (as las : List String) {n1 n2 t1 t2 : Node} {a1 a2 : List Node} (hn : HintRel n1 n2) (ha : HintRelL a1 a2) (ht : HintRel t1 t2) :
    HintRel (.mk .jsxOpening as [n1, .mk .list las a1, t1]) (.mk .jsxOpening as [n2, .mk .list las a2, t2]) :=
  .node _ _ (.cons hn (.cons (.node _ _ ha) (.cons ht .nil)))

theorem openingHook_rel {n1 n2 : Node} (hn : HintRel n1 n2) {s1 s2 : St} (hs : StSim s1 s2) :
    HintRel (openingHook n1 s1).1 (openingHook n2 s2).1 ∧ StSim (openingHook n1 s1).2 (openingHook n2 s2).2 := by
  rw [openingHook_eq, openingHook_eq]
  rcases openingParts_rel hn with ⟨h1, h2⟩ | ⟨as, las, m1, m2, at1, at2, t1, t2, h1, h2, hm, hat, ht⟩
  · rw [h1, h2]; exact ⟨hn, hs⟩
  · rw [h1, h2]
    dsimp only
    unfold openingCore
    rw [findVModels_rel hat 0]
    cases hf : findVModels at2 0 with
    | none => exact ⟨hn, hs⟩
    | some idx =>
      dsimp only
      -- the opening without its `v-models` attribute
      have removed := rel_opening as las hm ((hat.take idx).append (hat.drop (idx + 1))) ht
      refine (containerExpr_rel (vmValue_rel hat idx)).cases ⟨removed, hs.err _⟩ fun he => ?_
      dsimp only
      exact (arrayElems_rel he).cases ⟨removed, hs.err _⟩ fun hl =>
        ⟨rel_opening _ _ hm (((hat.take idx).append (decoupleVModels_rel hl)).append (hat.drop (idx + 1))) ht, hs⟩

theorem importSpecView_rel {a b : Node} (h : HintRel a b) : importSpecView a = importSpecView b := by
  unfold importSpecView
  split
  · obtain ⟨_, _, _ | ⟨h1, _ | ⟨⟨_, _, _⟩, ⟨⟩ | _⟩⟩⟩ := h
    simp only [h1.identName, h1.identBind]
  · rename_i hne
    split
    · obtain ⟨_, _, _ | ⟨_, _ | ⟨⟨_, _, _⟩, ⟨⟩ | _⟩⟩⟩ := h
      exact (hne _ _ _ _ rfl).elim
    · rfl

theorem importedDefineComponent_rel {a b : List Node} (h : HintRelL a b) : importedDefineComponent a = importedDefineComponent b := by
  rw [importedDefineComponent_eq, importedDefineComponent_eq]
  induction h using HintRelL.induct with
  | nil => rfl
  | cons hx _ ih => rw [List.findSome?_cons, List.findSome?_cons, importSpecView_rel hx, ih]

theorem importView_rel {a b : Node} (h : HintRel a b) : importView a = importView b := by
  unfold importView
  split
  · obtain ⟨_, _, _ | ⟨⟨_, _, hspecs⟩, _ | ⟨⟨_, _, _⟩, _⟩⟩⟩ := h
    simp only [importedDefineComponent_rel hspecs]
  · rename_i hne
    split
    · obtain ⟨_, _, _ | ⟨⟨_, _, _⟩, _ | ⟨⟨_, _, _⟩, _⟩⟩⟩ := h
      exact (hne _ _ _ _ _ _ _ rfl).elim
    · rfl

theorem importHook_rel {n1 n2 : Node} (hn : HintRel n1 n2) {s1 s2 : St} (hs : StSim s1 s2) : StSim (importHook n1 s1) (importHook n2 s2) := by
  rw [importHook_eq, importHook_eq, importView_rel hn]
  split
  · refine rel_ite hs ?_
    split
    · exact hs.setDc _
    · exact hs
  · exact hs

theorem buildSlotHelper_rel (helper iv : Node) {s1 s2 : St} (hs : StSim s1 s2) : Sim Eq (buildSlotHelper helper iv s1) (buildSlotHelper helper iv s2) := by
  rw [hs.eq]; exact ⟨rfl, .of_eq hs.2⟩

theorem finishHelper_rel {i1 i2 : List Node} (hi : HintRelL i1 i2) {s1 s2 : St} (hs : StSim s1 s2) :
    Sim HintRelL (finishHelper i1 s1) (finishHelper i2 s2) := by
  unfold finishHelper
  rw [hs.same St.slotHelper]
  split
  · rename_i helper _
    have iv := hs.importFromVue "isVNode"
    dsimp only
    rw [iv.1]
    have decl := buildSlotHelper_rel helper (s2.importFromVue "isVNode").1 iv.2
    rw [decl.1]
    exact ⟨.cons (.refl _) hi, decl.2⟩
  · exact ⟨hi, hs⟩

theorem finishImports_rel {i1 i2 : List Node} (hi : HintRelL i1 i2) {s1 s2 : St} (hs : StSim s1 s2) :
    HintRelL (finishImports i1 s1) (finishImports i2 s2) := by
  unfold finishImports
  rw [hs.same St.imports, hs.same St.transformOnHelper]
  cases s2.transformOnHelper with
  | none => exact rel_ite (.cons (.refl _) hi) hi
  | some h => exact rel_ite (.cons (.refl _) (.cons (.refl _) hi)) (.cons (.refl _) hi)

theorem finishModule_rel {i1 i2 : List Node} (hi : HintRelL i1 i2) {s1 s2 : St} (hs : StSim s1 s2) :
    HintRelL (finishModule i1 s1).1 (finishModule i2 s2).1 ∧ StSim (finishModule i1 s1).2 (finishModule i2 s2).2 := by
  rw [finishModule_eq, finishModule_eq]
  have d := drainInto_rel hi hs
  have h := finishHelper_rel d.1 d.2
  exact ⟨finishImports_rel h.1 h.2, h.2⟩

end VueJsx
