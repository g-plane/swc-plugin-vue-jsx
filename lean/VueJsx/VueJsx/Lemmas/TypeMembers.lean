/-
  Members of an object type, one at a time: what `refineMembers` keeps, what the specification reads from one member
  (`memberSpec`), and the fact that links the model's reading of a member key to the specification's: `memberKeyName` is
  `pickName` of `specKeyC`.
-/
import VueJsx.TypeSpec

namespace VueJsx

def isRefined (m : Node) : Bool :=
  match m with
  | .mk .tsPropSig _ _ => true
  | .mk .tsMethodSig _ _ => true
  | .mk .tsGetterSig _ _ => true
  | .mk .tsCallSig _ _ => true
  | _ => false

theorem refineMembers_eq (ms : List Node) : refineMembers ms = ms.filter isRefined := rfl

def memberSpec (m : Node) : Option PropSpec :=
  match m with
  | .mk .tsPropSig [_, comp, opt] [key, ann] => (specKeyC comp key).map fun k => { key := k, optional := opt == "true", ty := typeAnnInner ann }
  | .mk .tsMethodSig [comp, opt] (key :: _) => (specKeyC comp key).map fun k => { key := k, optional := opt == "true", ty := none, isMethod := true }
  | .mk .tsGetterSig as [key, ann] => (specKeyC (as.headD "false") key).map fun k => { key := k, optional := false, ty := typeAnnInner ann }
  | _ => none

theorem membersSpec_eq (ms : List Node) : membersSpec ms = ms.filterMap memberSpec := rfl

theorem memberSpec_of_not_refined {m : Node} (h : isRefined m = false) : memberSpec m = none := by
  unfold memberSpec
  split
  · cases h      -- a property, method or getter signature is refined
  · cases h
  · cases h
  · rfl

theorem membersSpec_refine (ms : List Node) : membersSpec (refineMembers ms) = membersSpec ms := by
  rw [membersSpec_eq, membersSpec_eq, refineMembers_eq, List.filterMap_filter]
  congr 1
  funext m
  cases h : isRefined m
  · simp [memberSpec_of_not_refined h]
  · simp

theorem membersSpec_append (a b : List Node) : membersSpec (a ++ b) = membersSpec a ++ membersSpec b := by
  simp [membersSpec_eq, List.filterMap_append]

/-- Rust `static_key_name(key, computed)`, the second half of `memberKeyName` -/
def staticKeyName (computed : String) (k : Node) : Option String :=
  match k with
  | .mk .ident (n :: _) _ => if computed == "true" then none else some n
  | .mk .str (v :: _) _ => some v
  | _ => none

theorem memberKeyName_propSig (as : List String) (k : Node) (ks : List Node) :
    memberKeyName (.mk .tsPropSig as (k :: ks)) = some (staticKeyName (as.getD 1 "false") k) := rfl

theorem memberKeyName_methodSig (as : List String) (k : Node) (ks : List Node) :
    memberKeyName (.mk .tsMethodSig as (k :: ks)) = some (staticKeyName (as.headD "false") k) := rfl

theorem memberKeyName_getterSig (as : List String) (k : Node) (ks : List Node) :
    memberKeyName (.mk .tsGetterSig as (k :: ks)) = some (staticKeyName (as.headD "false") k) := rfl

theorem memberKeyName_none {m : Node} (h1 : ∀ as k r, m ≠ .mk .tsPropSig as (k :: r)) (h2 : ∀ as k r, m ≠ .mk .tsMethodSig as (k :: r))
    (h3 : ∀ as k r, m ≠ .mk .tsGetterSig as (k :: r)) : memberKeyName m = none := by
  unfold memberKeyName
  split
  · exact absurd rfl (h1 _ _ _)
  · exact absurd rfl (h2 _ _ _)
  · exact absurd rfl (h3 _ _ _)
  · rfl

theorem staticKeyName_eq (c : String) (k : Node) : staticKeyName c k = (specKeyC c k).bind pickName := by
  unfold staticKeyName specKeyC
  split
  · split <;> simp [pickName, nIdentName, nIdent]
  · simp [specKey, pickName]
  · next h1 h2 =>
    split
    · exact absurd rfl (h1 _ _ _)
    · unfold specKey
      split
      · exact absurd rfl (h1 _ _ _)
      · next as ks _ =>
        cases as with
        | nil => rfl
        | cons v r => exact absurd rfl (h2 _ _ _)
      · rfl
      · rfl

theorem memberKeyName_of_spec {m : Node} {p : PropSpec} (h : memberSpec m = some p) :
    memberKeyName m = some (pickName p.key) := by
  have key {c : String} {key k : Node} (hk : specKeyC c key = some k) :
      some ((specKeyC c key).bind pickName) = some (pickName k) := by rw [hk]; rfl
  unfold memberSpec at h
  split at h
  · obtain ⟨k, hk, rfl⟩ := Option.map_eq_some_iff.mp h
    rw [memberKeyName_propSig, staticKeyName_eq]; exact key hk
  · obtain ⟨k, hk, rfl⟩ := Option.map_eq_some_iff.mp h
    rw [memberKeyName_methodSig, staticKeyName_eq]; exact key hk
  · obtain ⟨k, hk, rfl⟩ := Option.map_eq_some_iff.mp h
    rw [memberKeyName_getterSig, staticKeyName_eq]; exact key hk
  · cases h

theorem memberSpec_setOptional (v : Bool) (m : Node) :
    memberSpec (setOptional v m) = (memberSpec m).map fun x => { x with optional := v } := by
  unfold setOptional
  simp only
  split
  · next ro comp o ks =>
    match ks with
    | [key, ann] => simp only [memberSpec, Option.map_map]; cases v <;> rfl
    | [] | [_] | _ :: _ :: _ :: _ => rfl
  · next comp o ks =>
    match ks with
    | key :: _ => simp only [memberSpec, Option.map_map]; cases v <;> rfl
    | [] => rfl
  · next as ks =>
    match ks with
    | [key, ann] =>
      cases v
      · simp only [memberSpec, Bool.false_eq_true, if_false, Option.map_map]; rfl
      · simp only [memberSpec, if_true, Option.map_map]; rfl
    | [] | [_] | _ :: _ :: _ :: _ => cases v <;> rfl
  · next h1 h2 h3 =>
    have : memberSpec m = none := by
      unfold memberSpec
      split
      · exact absurd rfl (h1 _ _ _ _)
      · exact absurd rfl (h2 _ _ _)
      · exact absurd rfl (h3 _ _)
      · rfl
    rw [this]
    rfl

theorem membersSpec_setOptional (v : Bool) (ms : List Node) :
    membersSpec (ms.map (setOptional v)) = (membersSpec ms).map fun x => { x with optional := v } := by
  simp only [membersSpec_eq, List.filterMap_map, List.map_filterMap, Function.comp_def, memberSpec_setOptional]

theorem membersSpec_filter (ms : List Node) (fm : Node → Bool) (fs : PropSpec → Bool)
    (h : ∀ m p, memberSpec m = some p → fm m = fs p) :
    membersSpec (ms.filter fm) = (membersSpec ms).filter fs := by
  rw [membersSpec_eq, membersSpec_eq, List.filterMap_filter, List.filter_filterMap]
  congr 1
  funext m
  cases hm : memberSpec m with
  | none => simp
  | some p => rw [h m p hm]; cases hp : fs p <;> simp [Option.filter, hp]

/-- the filter in the form `resolveElements_pick_omit` has it -/
theorem membersSpec_pick_omit (keep : Bool) (keys : List String) (ms : List Node) :
    membersSpec (ms.filter fun m =>
        match memberKeyName m with
        | some (some k) => if keep then keys.contains k else !keys.contains k
        | _ => !keep)
      = (membersSpec ms).filter (fun p => if keep then pickedBy keys p else !pickedBy keys p) := by
  apply membersSpec_filter
  intro m p h
  rw [memberKeyName_of_spec h]
  unfold pickedBy
  cases keep <;> cases pickName p.key <;> rfl

end VueJsx
