import VueJsx.Syntax

namespace VueJsx

/-- Case distinction on an `if` without `split`, which first abstracts the condition out of the whole goal: slow when
    the condition contains the lowering of an element.  Core's `iteInduction` with the conditions dropped. -/
theorem ite_cases {α : Sort _} {P : α → Prop} {c : Prop} [Decidable c] {a b : α} (ha : P a) (hb : P b) :
    P (if c then a else b) := by
  split <;> assumption

theorem ite_snd {α β : Type} {P : β → Prop} {c : Prop} [Decidable c] {a b : α × β} (ha : P a.2) (hb : P b.2) :
    P (if c then a else b).2 :=
  ite_cases (P := fun r : α × β => P r.2) ha hb

theorem rel_ite {α β : Type} {R : α → β → Prop} {c : Prop} [Decidable c] {a1 b1 : α} {a2 b2 : β} (ht : R a1 a2) (he : R b1 b2) :
    R (if c then a1 else b1) (if c then a2 else b2) := by
  split
  · exact ht
  · exact he

/-- Like the `_none` lemmas of the views, takes "not this shape" as `∀ …, n = … → False`: `split` hands over a fall-through
    arm in that form, so `‹_›` passes it on. -/
theorem Node.kind_ne_of {n : Node} {k : K} (h : ∀ as ks, n = .mk k as ks → False) : n.kind ≠ k := by
  cases n with | mk k' as ks => exact fun e => h as ks (by rw [← e]; rfl)

theorem Node.induct {P : Node → Prop} {Q : List Node → Prop}
    (mk : ∀ k as ks, Q ks → P (.mk k as ks)) (nil : Q []) (cons : ∀ c cs, P c → Q cs → Q (c :: cs)) :
    (∀ n, P n) ∧ ∀ l, Q l :=
  ⟨fun n => Node.rec (motive_1 := P) (motive_2 := Q) mk nil cons n,
   fun l => Node.rec_1 (motive_1 := P) (motive_2 := Q) mk nil cons l⟩

theorem Node.sizeInduct {P : Node → Prop} (h : ∀ n, (∀ m, sizeOf m < sizeOf n → P m) → P n) : ∀ n, P n :=
  fun n => (measure sizeOf).wf.induction n h

theorem ite_map_eq_some {α β : Type} {c : Prop} [Decidable c] {p : Option α} {f : α → β} {e : Option β} {o' : β}
    (h : (if c then p.map f else e) = some o') : (c ∧ ∃ b, f b = o') ∨ (¬c ∧ e = some o') := by
  by_cases hc : c
  · rw [if_pos hc] at h
    cases p with
    | none => cases h
    | some b => exact .inl ⟨hc, b, Option.some.inj h⟩
  · exact .inr ⟨hc, by rwa [if_neg hc] at h⟩

mutual
theorem Node.beq_refl : ∀ n : Node, Node.beq n n = true
  | .mk k as ks => by simp [Node.beq, Node.beqList_refl ks]
theorem Node.beqList_refl : ∀ ns : List Node, Node.beqList ns ns = true
  | [] => by simp [Node.beqList]
  | n :: ns => by simp [Node.beqList, Node.beq_refl n, Node.beqList_refl ns]
end

theorem Node.beq_self (n : Node) : (n == n) = true := Node.beq_refl n

end VueJsx
