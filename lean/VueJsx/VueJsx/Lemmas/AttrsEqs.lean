/-
  Views of the nodes `dedupeProps` (Rust `dedupe_props`) and the attribute fold match on, the arms of `attrStep` as
  functions of their own, and the equations that say so.
-/
import VueJsx.Attrs
import VueJsx.Lemmas.DirectiveEqs

namespace VueJsx

def constKey (k : Node) : Bool := match k with | .mk .computed _ [e] => isConstant e | _ => true

theorem allConstProps_kv (as : List String) (k v : Node) (rest : List Node) :
    allConstProps (.mk .kv as [k, v] :: rest) = (constKey k && isConstant v && allConstProps rest) := by
  unfold constKey
  split
  · rw [allConstProps]
  · exact allConstProps.eq_3 _ _ _ _ ‹_›

def kvStrParts : Node → Option (List String × String × List String × List Node × Node)
  | .mk .kv das [.mk .str (k :: kas) kks, dv] => some (das, k, kas, kks, dv)
  | _ => none

-- the `_none` lemma of a view is its generated fall-through equation, under a name: the hypothesis is what `split` hands over
theorem kvStrParts_none {d : Node} (h : ∀ das k kas kks dv, d = .mk .kv das [.mk .str (k :: kas) kks, dv] → False) : kvStrParts d = none :=
  kvStrParts.eq_2 _ h

theorem kvStrParts_some {d dv : Node} {das kas : List String} {k : String} {kks : List Node}
    (h : kvStrParts d = some (das, k, kas, kks, dv)) : d = .mk .kv das [.mk .str (k :: kas) kks, dv] := by
  unfold kvStrParts at h
  split at h <;> cases h
  rfl

theorem dedupeAdd_eq (name : String) (prop value d : Node) (ds : List Node) :
    dedupeAdd name prop value (d :: ds) =
      (match kvStrParts d with
       | some (das, k, kas, kks, dv) =>
         if k == name then
           (if isMergeKey name then .mk .kv das [.mk .str (k :: kas) kks, mergeInto dv value] :: ds else d :: ds)
         else d :: dedupeAdd name prop value ds
       | none => d :: dedupeAdd name prop value ds) := by
  conv => lhs; unfold dedupeAdd
  split
  · rfl
  · rw [kvStrParts_none ‹_›]

def dedupeStep (defined : List Node) (p : Node) : List Node :=
  match kvStrParts p with
  | some (_, k, _, _, v) => dedupeAdd k p v defined
  | none => defined ++ [p]

theorem dedupeProps_eq (props : List Node) : dedupeProps props = props.foldl dedupeStep [] := by
  unfold dedupeProps
  congr 1
  funext defined p
  unfold dedupeStep
  split
  · rfl
  · rw [kvStrParts_none ‹_›]

def attrParts : Node → Option (Node × Node)
  | .mk .jsxAttr _ [n, v] => some (n, v)
  | _ => none

def spreadPart : Node → Option Node
  | .mk .spreadElement _ [e] => some e
  | _ => none

def objLitParts : Node → Option (List String × List String × List Node)
  | .mk .object oas [.mk .list las ps] => some (oas, las, ps)
  | _ => none

@[simp] theorem attrParts_attr (as : List String) (n v : Node) : attrParts (.mk .jsxAttr as [n, v]) = some (n, v) := rfl

theorem attrParts_none {a : Node} (h : ∀ as n v, a = .mk .jsxAttr as [n, v] → False) : attrParts a = none :=
  attrParts.eq_2 _ h

theorem attrParts_some {a n v : Node} (h : attrParts a = some (n, v)) : ∃ as, a = .mk .jsxAttr as [n, v] := by
  unfold attrParts at h
  split at h
  · cases h; exact ⟨_, rfl⟩
  · cases h

theorem spreadPart_none {a : Node} (h : ∀ as e, a = .mk .spreadElement as [e] → False) : spreadPart a = none :=
  spreadPart.eq_2 _ h

theorem objLitParts_none {a : Node} (h : ∀ oas las ps, a = .mk .object oas [.mk .list las ps] → False) : objLitParts a = none :=
  objLitParts.eq_2 _ h

theorem spreadPart_some {a e : Node} (h : spreadPart a = some e) : ∃ as, a = .mk .spreadElement as [e] := by
  unfold spreadPart at h
  split at h
  · cases h; exact ⟨_, rfl⟩
  · cases h

theorem objLitParts_some {e : Node} {oas las : List String} {ps : List Node} (h : objLitParts e = some (oas, las, ps)) :
    e = .mk .object oas [.mk .list las ps] := by
  unfold objLitParts at h
  split at h
  · cases h; rfl
  · cases h

theorem attrValueExpr_snd (v : Node) (l : Option Node) (st : St) :
    (attrValueExpr v l st).2 = st ∨ (attrValueExpr v l st).2 = st.panic "unreachable: JSX attribute value literal must be string" := by
  unfold attrValueExpr
  split
  · exact .inl rfl
  · split
    · exact .inl rfl
    · exact .inl rfl
    · exact .inl rfl
    · exact .inr rfl

/-- the key under which `attrStep` enters a plain attribute -/
def attrNameText (nameN : Node) : String :=
  match attrNameOf nameN with
  | .plain s => s
  | .ns ns n => ns ++ ":" ++ n
  | .bad => ""

def tonHelper (st : St) : Node × St :=
  match st.transformOnHelper with
  | some h => (h, st)
  | none =>
    let (h, st) := st.fresh "_transformOn"
    (h, { st with transformOnHelper := some h })

/-- the directive arm of `attrStep`, after the parse -/
def dirAcc (o : Opts) (isComponent : Bool) (d : Dir) (acc : AttrAcc) : AttrAcc :=
  match d with
  | .normal n arg mods v => { acc with directives := acc.directives ++ [(n, arg, mods, v)] }
  | .html e =>
    { acc with props := acc.props ++ [nKV (nStr "innerHTML") e], dynamicProps := insertUnique "innerHTML" acc.dynamicProps }
  | .text e =>
    { acc with props := acc.props ++ [nKV (nStr "textContent") e], dynamicProps := insertUnique "textContent" acc.dynamicProps }
  | .vmodel arg targ mods v => vmodelStep o isComponent arg targ mods v acc
  | .slots e => { acc with slots := e }

def plainCore (o : Opts) (isComponent : Bool) (attrName : String) (valueN : Node) (lowered : Option Node) (acc : AttrAcc) (st : St) :
    AttrAcc × St :=
  let value := attrValueExpr valueN lowered st
  let isTransformOn := o.transformOn && (attrName == "on" || attrName == "nativeOn")
  let acc := plainAttrFlags isComponent attrName valueN isTransformOn acc
  if isTransformOn then
    let helper := tonHelper value.2
    let acc :=
      if !acc.props.isEmpty then
        { acc with mergeArgs := acc.mergeArgs ++ [nObject (if o.mergeProps then dedupeProps acc.props else acc.props)],
                   props := [] }
      else acc
    ({ acc with mergeArgs := acc.mergeArgs ++ [nCall helper.1 [nArg value.1]] }, helper.2)
  else
    ({ acc with props := acc.props ++ [nKV (nStr attrName) value.1] }, value.2)

def attrCore (o : Opts) (isComponent : Bool) (nameN valueN : Node) (lowered : Option Node) (acc : AttrAcc) (st : St) : AttrAcc × St :=
  if isDirectiveAttrName (attrNameOf nameN) then
    (dirAcc o isComponent (parseDirective (attrNameOf nameN) valueN isComponent st).1 acc,
     (parseDirective (attrNameOf nameN) valueN isComponent st).2)
  else plainCore o isComponent (attrNameText nameN) valueN lowered acc st

def spreadEntries (e : Node) : List Node :=
  match objLitParts e with
  | some (_, _, ps) => ps
  | none => [nSpreadElement e]

/-- with mergeProps `e` itself becomes a merge argument, object literal or not -/
def spreadAcc (o : Opts) (e : Node) (acc : AttrAcc) : AttrAcc :=
  if o.mergeProps then
    { acc with hasDynamicKeys := true, props := [],
               mergeArgs := acc.mergeArgs ++ (if acc.props.isEmpty then [] else [nObject (dedupeProps acc.props)]) ++ [e] }
  else { acc with hasDynamicKeys := true, props := acc.props ++ spreadEntries e }

theorem attrStep_eq (o : Opts) (c : Bool) (a : Node) (l : Option Node) (acc : AttrAcc) (st : St) :
    attrStep o c a l acc st =
      (match attrParts a with
       | some (n, v) => attrCore o c n v l acc st
       | none =>
         match spreadPart a with
         | some e => (spreadAcc o e acc, st)
         | none => (acc, st.panic "ill-formed attribute")) := by
  unfold attrStep
  split
  · dsimp only [attrParts, attrCore]
    split
    · rcases parseDirective _ _ c st with ⟨d, st'⟩
      cases d <;> rfl
    · rfl
  · dsimp only [attrParts, spreadPart, spreadAcc, spreadEntries]
    split
    · dsimp only [objLitParts]
      -- both sides are literals, equal up to `++ []`: hence `simp`, not `rfl`
      cases o.mergeProps <;> cases acc.props <;> simp
    · rw [objLitParts_none ‹_›]
      cases o.mergeProps <;> cases acc.props <;> simp
  · rw [attrParts_none ‹_›, spreadPart_none ‹_›]

theorem attrStep_attr (o : Opts) (c : Bool) (as : List String) (nameN valueN : Node) (l : Option Node) (acc : AttrAcc) (st : St) :
    attrStep o c (.mk .jsxAttr as [nameN, valueN]) l acc st = attrCore o c nameN valueN l acc st := by
  rw [attrStep_eq]; rfl

theorem attrStep_directive {o : Opts} {c : Bool} {as : List String} {nameN valueN : Node} {l : Option Node} {acc : AttrAcc} {st : St}
    (hd : isDirectiveAttrName (attrNameOf nameN) = true) :
    attrStep o c (.mk .jsxAttr as [nameN, valueN]) l acc st =
      (dirAcc o c (parseDirective (attrNameOf nameN) valueN c st).1 acc, (parseDirective (attrNameOf nameN) valueN c st).2) := by
  rw [attrStep_attr, attrCore, if_pos hd]

theorem attrStep_plain {o : Opts} {c : Bool} {as : List String} {nameN valueN : Node} {l : Option Node} {acc : AttrAcc} {st : St}
    (hd : isDirectiveAttrName (attrNameOf nameN) = false) :
    attrStep o c (.mk .jsxAttr as [nameN, valueN]) l acc st = plainCore o c (attrNameText nameN) valueN l acc st := by
  rw [attrStep_attr, attrCore, if_neg (by simp [hd])]

theorem attrStep_spread (o : Opts) (c : Bool) (as : List String) (e : Node) (l : Option Node) (acc : AttrAcc) (st : St) :
    attrStep o c (.mk .spreadElement as [e]) l acc st = (spreadAcc o e acc, st) := by
  rw [attrStep_eq]; rfl

def mergeCall (args : List Node) (st : St) : Node × St :=
  match args with
  | [e] => (e, st)
  | _ => (nCall (st.importFromVue "mergeProps").1 (args.map nArg), (st.importFromVue "mergeProps").2)

def propsObject (o : Opts) (props : List Node) : Node := nObject (if o.mergeProps then dedupeProps props else props)

theorem assembleProps_eq (o : Opts) (props mergeArgs : List Node) (st : St) :
    assembleProps o props mergeArgs st =
      (if !mergeArgs.isEmpty then mergeCall (if !props.isEmpty then mergeArgs ++ [propsObject o props] else mergeArgs) st
       else if !props.isEmpty then
         (match props with
          | [.mk .spreadElement _ [e]] => (e, st)
          | _ => (propsObject o props, st))
       else (nNull, st)) := rfl

@[simp] theorem mem_insertUnique {x k : String} {xs : List String} : k ∈ insertUnique x xs ↔ k ∈ xs ∨ k = x := by
  unfold insertUnique
  split
  · rename_i h
    have hx : x ∈ xs := by simpa using h
    exact ⟨.inl, fun h => h.elim id (· ▸ hx)⟩
  · simp

/-- the four fields that hold nodes -/
def AttrAcc.content (a : AttrAcc) := (a.props, a.mergeArgs, a.directives, a.slots)

/-- the other six fields, which hold no nodes -/
def AttrAcc.flags (a : AttrAcc) := (a.dynamicProps, a.hasRef, a.hasClass, a.hasStyle, a.hasHydration, a.hasDynamicKeys)

theorem AttrAcc.content_eq {a : AttrAcc} {p m : List Node} {d : List (String × Option Node × Option Node × Node)} {s : Option Node} :
    a.content = (p, m, d, s) ↔ a.props = p ∧ a.mergeArgs = m ∧ a.directives = d ∧ a.slots = s := by
  simp only [AttrAcc.content, Prod.mk.injEq]

theorem AttrAcc.flags_eq {a : AttrAcc} {dp : List String} {r c s h k : Bool} :
    a.flags = (dp, r, c, s, h, k) ↔
      a.dynamicProps = dp ∧ a.hasRef = r ∧ a.hasClass = c ∧ a.hasStyle = s ∧ a.hasHydration = h ∧ a.hasDynamicKeys = k := by
  simp only [AttrAcc.flags, Prod.mk.injEq]

/-- `f` reads and writes none of the four node-carrying fields: it commutes with overriding them -/
def FlagOnly (f : AttrAcc → AttrAcc) : Prop :=
  ∀ a p m d s, f { a with props := p, mergeArgs := m, directives := d, slots := s } =
    { f a with props := p, mergeArgs := m, directives := d, slots := s }

theorem FlagOnly.frame {f : AttrAcc → AttrAcc} (hf : FlagOnly f) (a : AttrAcc) :
    (f a).props = a.props ∧ (f a).mergeArgs = a.mergeArgs ∧ (f a).directives = a.directives ∧ (f a).slots = a.slots := by
  have e : f a = { f a with props := a.props, mergeArgs := a.mergeArgs, directives := a.directives, slots := a.slots } := hf a _ _ _ _
  exact ⟨(congrArg AttrAcc.props e : _), (congrArg AttrAcc.mergeArgs e : _), (congrArg AttrAcc.directives e : _), (congrArg AttrAcc.slots e : _)⟩

theorem flagOnly_hydrationStep (c : Bool) (n : String) : FlagOnly (hydrationStep c n) := by
  intro a p m d s
  unfold hydrationStep
  split <;> rfl

theorem flagOnly_coverStep (c : Bool) (n : String) : FlagOnly (coverStep c n) := by
  intro a p m d s
  unfold coverStep
  split
  · rfl
  · split
    · rfl
    · split <;> rfl

theorem flagOnly_plainAttrFlags (c : Bool) (n : String) (v : Node) (t : Bool) : FlagOnly (plainAttrFlags c n v t) := by
  intro a p m d s
  unfold plainAttrFlags
  -- else `split` takes the `if isNone v` inside the third test
  generalize (!(if isNone v then false else isAttrValueConstant v)) = B
  split
  · rfl
  · split
    · rfl
    · split
      · exact (congrArg _ (flagOnly_hydrationStep c n a p m d s)).trans (flagOnly_coverStep c n _ p m d s)
      · rfl

theorem plainAttrFlags_content (c : Bool) (nm : String) (v : Node) (t : Bool) (acc : AttrAcc) :
    (plainAttrFlags c nm v t acc).content = acc.content :=
  AttrAcc.content_eq.mpr ((flagOnly_plainAttrFlags c nm v t).frame acc)

def vmodelKeys (argKind : Nat × String × Node) : Node × Node × Node :=
  match argKind with
  | (0, _, _) => (nStr "modelValue", nStr "modelModifiers", nStr "onUpdate:modelValue")
  | (1, s, _) => (nStr s, nStr (s ++ "Modifiers"), nStr ("onUpdate:" ++ s))
  | (_, _, e) => (nComputed e, nComputed (nBin "+" e (nStr "Modifiers")), nComputed (nBin "+" (nStr "onUpdate") e))

theorem vmodelStepK_content (c : Bool) (ak : Nat × String × Node) (t m : Option Node) (v : Node) (acc : AttrAcc) :
    (vmodelStepK c ak t m v acc).content =
      (acc.props ++ (if c then nKV (vmodelKeys ak).1 v :: (match m with | some m => [nKV (vmodelKeys ak).2.1 m] | none => []) else [])
          ++ [nKV (vmodelKeys ak).2.2 (nModelListener v)],
       acc.mergeArgs, acc.directives ++ (if c then [] else [("model", t, m, v)]), acc.slots) := by
  obtain ⟨n, s, e⟩ := ak
  unfold vmodelStepK vmodelKeys AttrAcc.content
  rcases n with _ | _ | n <;> cases c <;> cases m <;> simp

theorem vmodelStepK_flags (c : Bool) (ak : Nat × String × Node) (t m : Option Node) (v : Node) (acc : AttrAcc) :
    (vmodelStepK c ak t m v acc).flags =
      (match ak with
       | (0, _, _) =>
         (insertUnique "onUpdate:modelValue" (if c then insertUnique "modelValue" acc.dynamicProps else acc.dynamicProps),
          acc.hasRef, acc.hasClass, acc.hasStyle, acc.hasHydration, acc.hasDynamicKeys)
       | (1, s, _) =>
         (insertUnique ("onUpdate:" ++ s) (if c then insertUnique s acc.dynamicProps else acc.dynamicProps),
          acc.hasRef, acc.hasClass, acc.hasStyle, acc.hasHydration, acc.hasDynamicKeys)
       | _ => (acc.dynamicProps, acc.hasRef, acc.hasClass, acc.hasStyle, acc.hasHydration, true)) := by
  obtain ⟨n, s, e⟩ := ak
  rcases n with _ | _ | n <;> cases c <;> cases m <;> rfl

theorem vmodelStep_flags_cases (o : Opts) (c : Bool) (a t m : Option Node) (v : Node) (acc : AttrAcc) :
    (∃ s, (vmodelStep o c a t m v acc).flags =
        (insertUnique ("onUpdate:" ++ s) (if c then insertUnique s acc.dynamicProps else acc.dynamicProps),
         acc.hasRef, acc.hasClass, acc.hasStyle, acc.hasHydration, acc.hasDynamicKeys)) ∨
    (vmodelStep o c a t m v acc).flags = (acc.dynamicProps, acc.hasRef, acc.hasClass, acc.hasStyle, acc.hasHydration, true) := by
  have hf := vmodelStepK_flags c (vmodelArgKind a) t m v acc
  unfold vmodelStep
  split at hf
  · exact .inl ⟨"modelValue", hf⟩
  · exact .inl ⟨_, hf⟩
  · exact .inr hf

/-- the runtime binding a parsed directive adds to `directives`, if any -/
def dirBinding (isComponent : Bool) : Dir → List (String × Option Node × Option Node × Node)
  | .normal n a m v => [(n, a, m, v)]
  | .vmodel _ t m v => if isComponent then [] else [("model", t, m, v)]
  | _ => []

theorem dirAcc_vmodel (o : Opts) (c : Bool) (a t m : Option Node) (v : Node) (acc : AttrAcc) :
    dirAcc o c (.vmodel a t m v) acc = vmodelStep o c a t m v acc := rfl

theorem vmodelStep_props (o : Opts) (c : Bool) (a t m : Option Node) (v : Node) (acc : AttrAcc) :
    (vmodelStep o c a t m v acc).props =
      acc.props ++ (if c then nKV (vmodelKeys (vmodelArgKind a)).1 v ::
          (match m with | some m => [nKV (vmodelKeys (vmodelArgKind a)).2.1 m] | none => []) else [])
        ++ [nKV (vmodelKeys (vmodelArgKind a)).2.2 (nModelListener v)] :=
  congrArg (·.1) (vmodelStepK_content c (vmodelArgKind a) t m v acc)

theorem dirAcc_directives (o : Opts) (c : Bool) (d : Dir) (acc : AttrAcc) :
    (dirAcc o c d acc).directives = acc.directives ++ dirBinding c d := by
  cases d with
  | vmodel a t m v =>
    exact (AttrAcc.content_eq.mp (vmodelStepK_content c (vmodelArgKind a) t m v acc)).2.2.1
  | _ => simp [dirAcc, dirBinding]

theorem plainCore_snd (o : Opts) (c : Bool) (nm : String) (vN : Node) (l : Option Node) (acc : AttrAcc) (st : St) :
    (plainCore o c nm vN l acc st).2 =
      if (o.transformOn && (nm == "on" || nm == "nativeOn")) = true then (tonHelper (attrValueExpr vN l st).2).2
      else (attrValueExpr vN l st).2 := by
  unfold plainCore
  simp only
  split <;> rfl

theorem plainCore_flags (o : Opts) (c : Bool) (nm : String) (vN : Node) (l : Option Node) (acc : AttrAcc) (st : St) :
    (plainCore o c nm vN l acc st).1.flags = (plainAttrFlags c nm vN (o.transformOn && (nm == "on" || nm == "nativeOn")) acc).flags := by
  unfold plainCore
  simp only
  split
  · split <;> rfl
  · rfl

theorem plainCore_content_off (o : Opts) (c : Bool) (nm : String) (vN : Node) (l : Option Node) (acc : AttrAcc) (st : St)
    (hon : (o.transformOn && (nm == "on" || nm == "nativeOn")) = false) :
    (plainCore o c nm vN l acc st).1.content =
      (acc.props ++ [nKV (nStr nm) (attrValueExpr vN l st).1], acc.mergeArgs, acc.directives, acc.slots) := by
  obtain ⟨h1, h2, h3, h4⟩ := AttrAcc.content_eq.mp (plainAttrFlags_content c nm vN false acc)
  simp only [plainCore, hon, Bool.false_eq_true, if_false, AttrAcc.content, h1, h2, h3, h4]

theorem plainCore_directives (o : Opts) (c : Bool) (nm : String) (vN : Node) (l : Option Node) (acc : AttrAcc) (st : St) :
    (plainCore o c nm vN l acc st).1.directives = acc.directives := by
  obtain ⟨-, -, h, -⟩ := (flagOnly_plainAttrFlags c nm vN (o.transformOn && (nm == "on" || nm == "nativeOn"))).frame acc
  unfold plainCore
  simp only
  split
  · split <;> exact h
  · exact h

theorem spreadAcc_flags (o : Opts) (e : Node) (acc : AttrAcc) :
    (spreadAcc o e acc).flags = ({ acc with hasDynamicKeys := true } : AttrAcc).flags := by
  unfold spreadAcc; split <;> rfl

theorem spreadAcc_directives (o : Opts) (e : Node) (acc : AttrAcc) : (spreadAcc o e acc).directives = acc.directives := by
  unfold spreadAcc; split <;> rfl

theorem attrStep_directives (o : Opts) (c : Bool) (a : Node) (l : Option Node) (acc : AttrAcc) (st : St) :
    (attrStep o c a l acc st).1.directives = acc.directives ++
      (match attrParts a with
       | some (n, v) => if isDirectiveAttrName (attrNameOf n) then dirBinding c (parseDirective (attrNameOf n) v c st).1 else []
       | none => []) := by
  rw [attrStep_eq]
  split
  · unfold attrCore
    split
    · exact dirAcc_directives ..
    · rw [plainCore_directives, List.append_nil]
  · rw [List.append_nil]
    split
    · exact spreadAcc_directives ..
    · rfl

theorem attrStep_directives_attr (o : Opts) (c : Bool) (as : List String) (n v : Node) (l : Option Node) (acc : AttrAcc) (st : St) :
    (attrStep o c (.mk .jsxAttr as [n, v]) l acc st).1.directives = acc.directives ++
      (if isDirectiveAttrName (attrNameOf n) then dirBinding c (parseDirective (attrNameOf n) v c st).1 else []) :=
  attrStep_directives ..

theorem attrStep_directives_other {o : Opts} {c : Bool} {a : Node} {l : Option Node} {acc : AttrAcc} {st : St}
    (h : attrParts a = none) : (attrStep o c a l acc st).1.directives = acc.directives := by
  rw [attrStep_directives, h, List.append_nil]

end VueJsx
