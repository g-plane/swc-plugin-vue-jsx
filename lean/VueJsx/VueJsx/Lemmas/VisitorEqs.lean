/-
  Equations of the visitor (`visit`, `visitKids`, the hooks, the first and the last stage of `transformModule`) in the
  form proofs rewrite with: results as projections, the deep patterns of a hook read through a view function.
  `visit_stmts_eq`, `visit_arrow_cons_eq`, `transformModule_eq` and the bodies of `finishHelper`, `finishImports`, `openingCore`
  name intermediate results by `let`, and a later `rw` finds no term that mentions such a name: `dsimp only` first, which
  removes the `let`s.
-/
import VueJsx.Visitor
import VueJsx.Lemmas.Basic

namespace VueJsx

theorem visit_stmts_eq (o : Opts) (env : Env) (as : List String) (ks : List Node) (pos : Pos) (st : St) :
    visit o env (.mk .stmts as ks) pos st =
      (let r := visitKids o env .stmts pos 0 ks st.clearPending
       let d := drainInto r.1 r.2
       (.mk .stmts as d.1, { d.2 with injectingConsts := st.injectingConsts, injectingVars := st.injectingVars })) := by
  unfold visit
  rfl

theorem visit_arrow_cons_eq (o : Opts) (env : Env) (as : List String) (params : Node) (rest : List Node) (pos : Pos) (st : St) :
    visit o env (.mk .arrow as (params :: rest)) pos st =
      (let r1 := visit o env params (kidPos .arrow pos 0) st
       let r2 := visitKids o env .arrow pos 1 rest r1.2.clearPending
       let r3 := drainArrow (.mk .arrow as (r1.1 :: r2.1)) r2.2
       exprHook o env pos r3.1 { r3.2 with injectingConsts := r1.2.injectingConsts ++ r3.2.injectingConsts,
                                            injectingVars := r1.2.injectingVars ++ r3.2.injectingVars }) := by
  conv => lhs; unfold visit

theorem visitKids_nil (o : Opts) (env : Env) (k : K) (pos : Pos) (i : Nat) (st : St) : visitKids o env k pos i [] st = ([], st) := by
  unfold visitKids; rfl

theorem visitKids_cons (o : Opts) (env : Env) (k : K) (pos : Pos) (i : Nat) (c : Node) (cs : List Node) (st : St) :
    visitKids o env k pos i (c :: cs) st =
      ((visit o env c (kidPos k pos i) st).1 :: (visitKids o env k pos (i + 1) cs (visit o env c (kidPos k pos i) st).2).1,
       (visitKids o env k pos (i + 1) cs (visit o env c (kidPos k pos i) st).2).2) := by
  conv => lhs; unfold visitKids

theorem visit_other {o : Opts} {env : Env} {k : K} {as : List String} {ks : List Node} {pos : Pos} {st : St}
    (hs : k ≠ .stmts) (ha : k = .arrow → ks = []) :
    visit o env (.mk k as ks) pos st =
      exprHook o env pos (kindHook o env (.mk k as (visitKids o env k pos 0 ks st).1) (visitKids o env k pos 0 ks st).2).1
        (kindHook o env (.mk k as (visitKids o env k pos 0 ks st).1) (visitKids o env k pos 0 ks st).2).2 := by
  unfold visit
  split
  · exact absurd rfl hs
  · cases ha rfl
  · rfl

def St.pendingVars (st : St) : List Node := if !st.injectingVars.isEmpty then [nVarDecl "let" st.injectingVars] else []
def St.pendingConsts (st : St) : List Node := if !st.injectingConsts.isEmpty then [nVarDecl "const" st.injectingConsts] else []

/-- what Rust's `visit_mut_stmts` declares in front of a statement list -/
def St.pendingDecls (st : St) : List Node := st.pendingVars ++ st.pendingConsts

/-- what `drainArrow` declares at the head of an arrow function's body -/
def St.pendingDeclsArrow (st : St) : List Node := st.pendingConsts ++ st.pendingVars

/-- the slot counter restarts with the temporaries -/
def St.drained (st : St) : St :=
  { st with injectingConsts := [], injectingVars := [],
            slotCounter := if !st.injectingVars.isEmpty then 1 else st.slotCounter }

/-- `drainInto` leaves an empty list alone, `St.drained` overwrites it: split on the fields (8th, 12th), not on `isEmpty`. -/
theorem drainInto_pending (items : List Node) (st : St) : drainInto items st = (st.pendingDecls ++ items, st.drained) := by
  cases st with | mk _ _ _ _ _ _ _ vars _ _ _ consts =>
  cases vars <;> cases consts <;> rfl

theorem drainArrow_pending (n : Node) (st : St) :
    drainArrow n st =
      match n with
      | .mk .arrow as [params, body, tp, rt] =>
        if !st.injectingConsts.isEmpty || !st.injectingVars.isEmpty then
          match body with
          | .mk .block _ _ => (n, st)
          | ret => (.mk .arrow as [params, nBlock (st.pendingDeclsArrow ++ [nReturn ret]), tp, rt], st.drained)
        else (n, st)
      | n => (n, st) := by
  cases st with | mk _ _ _ _ _ _ _ vars _ _ _ consts =>
  cases vars <;> cases consts <;> rfl

theorem drainArrow_cases (n : Node) (st : St) :
    drainArrow n st = (n, st) ∨
    ∃ as params body tp rt, n = .mk .arrow as [params, body, tp, rt] ∧
      drainArrow n st = (.mk .arrow as [params, nBlock (st.pendingDeclsArrow ++ [nReturn body]), tp, rt], st.drained) := by
  rw [drainArrow_pending]
  split
  · split
    · split
      · exact .inl rfl
      · exact .inr ⟨_, _, _, _, _, rfl, rfl⟩
    · exact .inl rfl
  · exact .inl rfl

def assignLeftOf : Node → Option (String × String)
  | .mk .assign _ [.mk .ident (name :: bind :: _) _, _] => some (name, bind)
  | _ => none

theorem assignLeftOf_none {n : Node}
    (h : ∀ as name bind r ks v, n = .mk .assign as [.mk .ident (name :: bind :: r) ks, v] → False) : assignLeftOf n = none :=
  assignLeftOf.eq_2 _ h

theorem exprHook_eq (o : Opts) (env : Env) (pos : Pos) (n : Node) (st : St) :
    exprHook o env pos n st =
      (if pos != .normal then (n, st)
       else if n.kind = .jsxElement then trElement o env n st
       else if n.kind = .jsxFragment then trFragment o env n st
       else match assignLeftOf n with
         | some (name, bind) => (n, { st with assignmentLeft := some (nIdent name bind) })
         | none => (n, st)) := by
  unfold exprHook
  split
  · rfl
  · split
    · rfl
    · rfl
    · rfl
    · next notElem notFrag notAssign =>
      rw [if_neg (Node.kind_ne_of notElem), if_neg (Node.kind_ne_of notFrag), assignLeftOf_none notAssign]

theorem scanPragmas_frame (env : Env) (st : St) : ∃ p, scanPragmas env st = { st with pragma := p } := by
  unfold scanPragmas
  split
  · exact ⟨_, rfl⟩
  · generalize env.comments = cs
    induction cs generalizing st with
    | nil => exact ⟨_, rfl⟩
    | cons c cs ih =>
      simp only [List.foldl]
      split
      · exact ih _
      · exact ih st

theorem ifaceHook_frame (n : Node) (st : St) : ∃ i, ifaceHook n st = { st with interfaces := i } := by
  unfold ifaceHook
  split
  · simp only
    split
    · exact ⟨_, rfl⟩
    · exact ⟨st.interfaces, rfl⟩
    · exact ⟨_, rfl⟩
  · exact ⟨st.interfaces, rfl⟩

theorem aliasHook_frame (n : Node) (st : St) : ∃ a, aliasHook n st = { st with typeAliases := a } := by
  unfold aliasHook
  split
  · simp only
    split
    · exact ⟨_, rfl⟩
    · exact ⟨_, rfl⟩
  · exact ⟨st.typeAliases, rfl⟩

theorem collectTypes_frame (m : Node) (st : St) :
    ∃ i a, collectTypes m st = { st with interfaces := i, typeAliases := a } := by
  unfold collectTypes
  refine List.foldlRecOn _ _ (motive := fun s : St => ∃ i a, s = { st with interfaces := i, typeAliases := a })
    ⟨st.interfaces, st.typeAliases, rfl⟩ ?_
  rintro _ ⟨i, a, rfl⟩ d -
  split
  · obtain ⟨i', h⟩ := ifaceHook_frame _ { st with interfaces := i, typeAliases := a }; exact ⟨i', a, h⟩
  · obtain ⟨a', h⟩ := aliasHook_frame _ { st with interfaces := i, typeAliases := a }; exact ⟨i, a', h⟩
  · exact ⟨i, a, rfl⟩

def startState (o : Opts) (env : Env) (m : Node) : St :=
  if o.resolveType then collectTypes m (scanPragmas env {}) else scanPragmas env {}

theorem startState_frame (o : Opts) (env : Env) (m : Node) :
    ∃ p i a, startState o env m = { ({} : St) with pragma := p, interfaces := i, typeAliases := a } := by
  obtain ⟨p, hp⟩ := scanPragmas_frame env {}
  unfold startState
  split
  · obtain ⟨i, a, h⟩ := collectTypes_frame m (scanPragmas env {})
    exact ⟨p, i, a, by rw [h, hp]⟩
  · exact ⟨p, [], [], hp⟩

theorem transformModule_eq (o : Opts) (env : Env) (as las : List String) (items rest : List Node) :
    transformModule o env (.mk .module as (.mk .list las items :: rest)) =
      (let r1 := visitKids o env .list .normal 0 items (startState o env (.mk .module as (.mk .list las items :: rest)))
       let r2 := visitKids o env .module .normal 1 rest r1.2
       let f := finishModule r1.1 r2.2
       (.mk .module as (.mk .list las f.1 :: r2.1), f.2)) := by
  unfold transformModule startState     -- first: `rfl` alone unfolds `visit` all over the right-hand side
  rfl

def finishHelper (items : List Node) (st : St) : List Node × St :=
  match st.slotHelper with
  | some h =>
    let (isVNode, st) := st.importFromVue "isVNode"
    let (decl, st) := buildSlotHelper h isVNode st
    (decl :: items, st)
  | none => (items, st)

def finishImports (items : List Node) (st : St) : List Node :=
  let items :=
    match st.transformOnHelper with
    | some h => nImportDecl [.mk .importDefault [] [h]] "@vue/babel-helper-vue-transform-on" :: items
    | none => items
  if !st.imports.isEmpty then
    nImportDecl (st.imports.map fun p => .mk .importSpec ["false"] [p.2, nQuoteIdent p.1]) "vue" :: items
  else items

theorem finishModule_eq (items : List Node) (st : St) :
    finishModule items st =
      (finishImports (finishHelper (drainInto items st).1 (drainInto items st).2).1 (finishHelper (drainInto items st).1 (drainInto items st).2).2,
       (finishHelper (drainInto items st).1 (drainInto items st).2).2) := by
  unfold finishModule finishImports finishHelper
  rcases drainInto items st with ⟨i, s⟩
  dsimp only
  cases s.slotHelper <;> rfl

theorem finishHelper_pending (items : List Node) (st : St) :
    (finishHelper items st).2.injectingVars = st.injectingVars ∧ (finishHelper items st).2.injectingConsts = st.injectingConsts := by
  unfold finishHelper
  split
  · simp only [buildSlotHelper, St.importFromVue, St.fresh]
    split <;> exact ⟨rfl, rfl⟩
  · exact ⟨rfl, rfl⟩

theorem mem_finishImports {x : Node} {items : List Node} (st : St) (h : x ∈ items) : x ∈ finishImports items st := by
  unfold finishImports
  split <;> split <;> simp [h]

def isVModelsAttr : Node → Bool
  | .mk .jsxAttr _ [.mk .ident (n :: _) _, _] => n == "v-models"
  | _ => false

theorem findVModels_cons (a : Node) (rest : List Node) (i : Nat) :
    findVModels (a :: rest) i = if isVModelsAttr a then some i else findVModels rest (i + 1) := by
  unfold isVModelsAttr
  split
  · rw [findVModels]
  · rename_i hne
    rw [findVModels]
    · rfl
    · exact fun _ _ _ _ _ e => hne _ _ _ _ _ e

def vmValue (x : Option Node) : Node :=
  match x with
  | some (.mk .jsxAttr _ [_, v]) => v
  | _ => nNone

def decoupleStep (el : Node) : Option Node :=
  match el with
  | .mk .arg _ [.mk .array _ [.mk .list _ inner]] =>
    some (.mk .jsxAttr [] [nIdentName "v-model", .mk .jsxExprContainer [] [nArray inner]])
  | _ => none

theorem decoupleVModels_eq (elems : List Node) : decoupleVModels elems = elems.filterMap decoupleStep := rfl

def openingParts : Node → Option (List String × Node × List String × List Node × Node)
  | .mk .jsxOpening as [nameN, .mk .list las attrs, ta] => some (as, nameN, las, attrs, ta)
  | _ => none

def openingCore (n : Node) (as : List String) (nameN : Node) (las : List String) (attrs : List Node) (ta : Node) (st : St) : Node × St :=
  match findVModels attrs 0 with
  | none => (n, st)
  | some idx =>
    let value := vmValue attrs[idx]?
    let before := attrs.take idx
    let after := attrs.drop (idx + 1)
    let msg := "Error: you should pass a Two-dimensional Arrays to v-models"
    match containerExpr value with
    | none => (.mk .jsxOpening as [nameN, .mk .list las (before ++ after), ta], st.err msg)
    | some e =>
      match arrayElems e with
      | none => (.mk .jsxOpening as [nameN, .mk .list las (before ++ after), ta], st.err msg)
      | some elems =>
        (.mk .jsxOpening as [nameN, .mk .list las (before ++ decoupleVModels elems ++ after), ta], st)

theorem openingParts_none {n : Node} (h : ∀ as nameN las attrs ta, n = .mk .jsxOpening as [nameN, .mk .list las attrs, ta] → False) :
    openingParts n = none :=
  openingParts.eq_2 _ h

theorem openingHook_eq (n : Node) (st : St) :
    openingHook n st =
      (match openingParts n with
       | some (as, nameN, las, attrs, ta) => openingCore n as nameN las attrs ta st
       | none => (n, st)) := by
  unfold openingHook
  split
  · rfl
  · rw [openingParts_none ‹_›]

def importSpecView (s : Node) : Option String :=
  match s with
  | .mk .importSpec _ [local_, .mk .none _ _] => if identName local_ == "defineComponent" then some (identBind local_) else none
  | _ => none

theorem importedDefineComponent_eq (specs : List Node) : importedDefineComponent specs = specs.findSome? importSpecView := rfl

/-- the source and the binding of a named `defineComponent` specifier -/
def importView (n : Node) : Option (String × Option String) :=
  match n with
  | .mk .importDecl _ (.mk .list _ specs :: .mk .str (src :: _) _ :: _) => some (src, importedDefineComponent specs)
  | _ => none

theorem importView_none {n : Node}
    (h : ∀ as las specs src sas sks r, n = .mk .importDecl as (.mk .list las specs :: .mk .str (src :: sas) sks :: r) → False) :
    importView n = none :=
  importView.eq_2 _ h

theorem importHook_eq (n : Node) (st : St) :
    importHook n st =
      (match importView n with
       | some (src, dc) => if src != "vue" then st else (match dc with | some b => { st with defineComponent := some b } | none => st)
       | none => st) := by
  unfold importHook
  split
  · rfl
  · rw [importView_none ‹_›]

end VueJsx
