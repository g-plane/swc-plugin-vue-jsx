/-
  HintLowering: the C12 simulation for the mutual lowering functions (`trElement`, `trFragment`, `trAttrs`, `trChildList`).
-/
import VueJsx.Lemmas.HintElement
import VueJsx.Lemmas.HintAttrs
import VueJsx.Props.C12

namespace VueJsx

theorem elementParts_rel {a b : Node} (h : HintRel a b) :
    (elementParts a = none ∧ elementParts b = none) ∨
    ∃ n1 n2 at1 at2 c1 c2, elementParts a = some (n1, at1, c1) ∧ elementParts b = some (n2, at2, c2) ∧
      HintRel n1 n2 ∧ HintRelL at1 at2 ∧ HintRelL c1 c2 := by
  unfold elementParts
  split
  · obtain ⟨_, _, _ | ⟨hopen, _ | ⟨⟨_, _, hc⟩, _ | ⟨_, ⟨⟩ | _⟩⟩⟩⟩ := h
    obtain ⟨_, _, _ | ⟨hn, _ | ⟨⟨_, _, hat⟩, _ | ⟨_, ⟨⟩ | _⟩⟩⟩⟩ := hopen
    exact .inr ⟨_, _, _, _, _, _, rfl, rfl, hn, hat, hc⟩
  · rename_i hne
    split
    · obtain ⟨_, _, _ | ⟨hopen, _ | ⟨⟨_, _, _⟩, _ | ⟨_, ⟨⟩ | _⟩⟩⟩⟩ := h
      obtain ⟨_, _, _ | ⟨_, _ | ⟨⟨_, _, _⟩, _ | ⟨_, ⟨⟩ | _⟩⟩⟩⟩ := hopen
      exact (hne _ _ _ _ _ _ _ _ _ rfl).elim
    · exact .inl ⟨rfl, rfl⟩

theorem fragmentParts_rel {a b : Node} (h : HintRel a b) :
    (fragmentParts a = none ∧ fragmentParts b = none) ∨
    ∃ c1 c2, fragmentParts a = some c1 ∧ fragmentParts b = some c2 ∧ HintRelL c1 c2 := by
  unfold fragmentParts
  split
  · obtain ⟨_, _, _ | ⟨_, _ | ⟨⟨_, _, hc⟩, _ | ⟨_, ⟨⟩ | _⟩⟩⟩⟩ := h
    exact .inr ⟨_, _, rfl, rfl, hc⟩
  · rename_i hne
    split
    · obtain ⟨_, _, _ | ⟨_, _ | ⟨⟨_, _, _⟩, _ | ⟨_, ⟨⟩ | _⟩⟩⟩⟩ := h
      exact (hne _ _ _ _ _ rfl).elim
    · exact .inl ⟨rfl, rfl⟩

inductive ChildViewRel : ChildView → ChildView → Prop
  | text (t : String) : ChildViewRel (.text t) (.text t)
  | empty : ChildViewRel .empty .empty
  | expr {e1 e2 : Node} : HintRel e1 e2 → ChildViewRel (.expr e1) (.expr e2)
  | spread {e1 e2 : Node} : HintRel e1 e2 → ChildViewRel (.spread e1) (.spread e2)
  | element : ChildViewRel .element .element
  | fragment : ChildViewRel .fragment .fragment
  | bad : ChildViewRel .bad .bad

theorem childView_rel {a b : Node} (h : HintRel a b) : ChildViewRel (childView a) (childView b) := by
  fun_cases childView a
  · obtain ⟨_, _, _⟩ := h; exact .text _
  · obtain ⟨_, _, _ | ⟨⟨_, _, _⟩, ⟨⟩ | _⟩⟩ := h; exact .empty
  · rename_i hne
    obtain ⟨_, _, _ | ⟨he, ⟨⟩ | _⟩⟩ := h
    unfold childView
    split
    · obtain ⟨_, _, _⟩ := he; exact (hne _ _ rfl).elim
    · exact .expr he
  · obtain ⟨_, _, _ | ⟨he, ⟨⟩ | _⟩⟩ := h; exact .spread he
  · obtain ⟨_, _, _⟩ := h; exact .element
  · obtain ⟨_, _, _⟩ := h; exact .fragment
  · rename_i h1 h2 h3 h4 h5
    unfold childView
    split
    · obtain ⟨_, _, _⟩ := h; exact (h1 _ _ _ rfl).elim
    · obtain ⟨_, _, _ | ⟨_, ⟨⟩ | _⟩⟩ := h; exact (h2 _ _ rfl).elim
    · obtain ⟨_, _, _ | ⟨_, ⟨⟩ | _⟩⟩ := h; exact (h3 _ _ rfl).elim
    · obtain ⟨_, _, _⟩ := h; exact (h4 _ _ rfl).elim
    · obtain ⟨_, _, _⟩ := h; exact (h5 _ _ rfl).elim
    · exact .bad

/-- `e1 e2` are arbitrary: at most the left run acts (`stackFill`), and that `StSim` does not see -/
theorem fillIfBound_rel (o : Opts) (e1 e2 : Node) {s1 s2 : St} (hs : StSim s1 s2) :
    StSim (fillIfBound { o with optimize := true } e1 s1) (fillIfBound { o with optimize := false } e2 s2) := by
  unfold fillIfBound
  simp only [Bool.true_and, Bool.false_and, Bool.false_eq_true, if_false]
  split
  · exact stackFill_rel_left hs
  · exact hs

/-- what the element lowering needs from the recursive calls on its attribute list and child list -/
def AttrsHyp (o : Opts) (env : Env) (c : Bool) (at1 at2 : List Node) : Prop :=
  ∀ acc1 acc2 s1 s2, AccSim acc1 acc2 → StSim s1 s2 →
    Sim AccSim (trAttrs { o with optimize := true } env c at1 acc1 s1) (trAttrs { o with optimize := false } env c at2 acc2 s2)

def KidsHyp (o : Opts) (env : Env) (c1 c2 : List Node) : Prop :=
  ∀ s1 s2, StSim s1 s2 →
    Sim HintRelL (trChildList { o with optimize := true } env c1 s1) (trChildList { o with optimize := false } env c2 s2)

structure ResSim (r1 r2 : AttrsResult) : Prop where
  attrs : HintRel r1.attrs r2.attrs
  slots : OptRel r1.slots r2.slots
  dirs : DirsRel r1.directives r2.directives

theorem transformAttrs_rel (o : Opts) (env : Env) (c : Bool) {at1 at2 : List Node} (hat : HintRelL at1 at2) (hA : AttrsHyp o env c at1 at2)
    {s1 s2 : St} (hs : StSim s1 s2) :
    Sim ResSim (transformAttrs { o with optimize := true } env at1 c s1) (transformAttrs { o with optimize := false } env at2 c s2) := by
  cases hat with
  | nil => rw [transformAttrs_nil, transformAttrs_nil]; exact ⟨⟨.refl _, .none, .nil⟩, hs⟩
  | cons hx hxs =>
    rw [transformAttrs_cons, transformAttrs_cons]
    dsimp only  -- `rw` does not look under the `let`s of the equation
    rw [C12_assemble_blind o true, C12_assemble_blind o false]
    have acc := hA {} {} s1 s2 ⟨rfl, .nil, .nil, .nil, .none⟩ hs
    have expr := assembleProps_rel o acc.1.props acc.1.mergeArgs acc.2
    exact ⟨⟨expr.1, acc.1.slots, acc.1.directives⟩, expr.2⟩

theorem isHintsTail_hintArgs (o : Opts) (ho : o.optimize = true) (args : List Node) (ar : AttrsResult) :
    ∃ hs, hintArgs o args ar = args ++ hs ∧ isHintsTail hs = true := by
  have strs : ∀ dp : List String, (dp.map fun p => nArg (nStr p)).all isStrArg = true := by
    intro dp; simp [isStrArg, nArg, nStr]
  unfold hintArgs
  rw [if_pos ho]
  dsimp only
  split
  · split
    · split
      · exact ⟨[_, _], List.append_assoc .., strs _⟩
      · exact ⟨[_], rfl, strs _⟩
    · split
      · exact ⟨[nArg (nNum _)], rfl, rfl⟩
      · exact ⟨[], (List.append_nil _).symm, rfl⟩
  · split
    · exact ⟨[nArg (nNum _)], rfl, rfl⟩
    · exact ⟨[], (List.append_nil _).symm, rfl⟩

/-- `ar1 ar2` are arbitrary: `hintArgs` reads them for the hints alone, which `HintRel.vnode` lets be any `isHintsTail` -/
theorem vnode_rel (o : Opts) {pr1 pr2 : Node} (hpr : pr1 = pr2) {t1 t2 p1 p2 k1 k2 : Node} (ht : HintRel t1 t2) (hp : HintRel p1 p2)
    (hk : KidsRel k1 k2) (ar1 ar2 : AttrsResult) :
    HintRel (nCall pr1 (hintArgs { o with optimize := true } [nArg t1, nArg p1, nArg k1] ar1))
      (nCall pr2 (hintArgs { o with optimize := false } [nArg t2, nArg p2, nArg k2] ar2)) := by
  obtain ⟨hs, h1, h2⟩ := isHintsTail_hintArgs { o with optimize := true } rfl [nArg t1, nArg p1, nArg k1] ar1
  rw [h1, hpr]
  exact HintRel.vnode [] [] [] pr2 nNone (rel_nArg ht) (rel_nArg hp) hk h2

theorem elementCore_rel (o : Opts) (env : Env) {n1 n2 : Node} (hn : HintRel n1 n2) {at1 at2 c1 c2 : List Node}
    (hat : HintRelL at1 at2) (hA : AttrsHyp o env (isComponent env n2) at1 at2) (hC : KidsHyp o env c1 c2)
    {s1 s2 : St} (hs : StSim s1 s2) :
    Sim HintRel (elementCore { o with optimize := true } env n1 at1 c1 s1) (elementCore { o with optimize := false } env n2 at2 c2 s2) := by
  unfold elementCore
  rw [isComponent_rel env hn]
  extract_lets isComp ar1 tag1 elems1 flag1 kids1 pragma1 vnode1 wd1 entries1 ar2 tag2 elems2 flag2 kids2 pragma2 vnode2 wd2 entries2
  have ar : Sim ResSim ar1 ar2 := transformAttrs_rel o env _ hat hA (pushFlag_rel _ _ hs)
  have tag : Sim HintRel tag1 tag2 := transformTag_rel env hn ar.2
  have elems : Sim HintRelL elems1 elems2 := hC _ _ tag.2
  have flag : StSim flag1.2 flag2.2 := popFlag_rel _ _ elems.2
  have kids : Sim KidsRel kids1 kids2 := finishChildren_rel o elems.1 isComp ar.1.slots _ _ flag
  have pragma : Sim Eq pragma1 pragma2 := getPragma_rel rfl kids.2
  have vnode : HintRel vnode1 vnode2 := vnode_rel o pragma.1 tag.1 ar.1.attrs kids.1 _ _
  rw [ar.1.dirs.isEmpty]
  split
  · exact ⟨vnode, pragma.2⟩
  · have wd : Sim Eq wd1 wd2 := pragma.2.importFromVue _
    have entries : Sim HintRelL entries1 entries2 := dirEntries_rel hn hat ar.1.dirs wd.2
    refine ⟨?_, entries.2⟩
    show HintRel (nCall wd1.1 _) (nCall wd2.1 _)
    rw [wd.1]
    exact rel_nCall _ (.cons (rel_nArg vnode) (.cons (rel_nArg (rel_nArray entries.1)) .nil))

theorem fragmentCore_rel (o : Opts) (env : Env) {c1 c2 : List Node} (hC : KidsHyp o env c1 c2) {s1 s2 : St} (hs : StSim s1 s2) :
    Sim HintRel (fragmentCore { o with optimize := true } env c1 s1) (fragmentCore { o with optimize := false } env c2 s2) := by
  unfold fragmentCore
  extract_lets pragma1 frag1 elems1 flag1 kids1 pragma2 frag2 elems2 flag2 kids2
  have pragma : Sim Eq pragma1 pragma2 := getPragma_rel rfl (pushFlag_rel _ _ hs)
  have frag : Sim Eq frag1 frag2 := pragma.2.importFromVue _
  have elems : Sim HintRelL elems1 elems2 := hC _ _ frag.2
  have flag : StSim flag1.2 flag2.2 := popFlag_rel _ _ elems.2
  have kids : Sim KidsRel kids1 kids2 := finishChildren_rel o elems.1 false (OptRel.refl none) _ _ flag
  refine ⟨?_, kids.2⟩
  show HintRel (nCall pragma1.1 [nArg frag1.1, _, _]) (nCall pragma2.1 [nArg frag2.1, _, _])
  rw [pragma.1, frag.1]
  exact HintRel.vnode [] [] [] _ nNone (HintRel.refl _) (HintRel.refl _) kids.1 rfl

theorem lowering_rel (o : Opts) (env : Env) :
    (∀ a b s1 s2, HintRel a b → StSim s1 s2 →
      Sim HintRel (trElement { o with optimize := true } env a s1) (trElement { o with optimize := false } env b s2)) ∧
    (∀ a b s1 s2, HintRel a b → StSim s1 s2 →
      Sim HintRel (trFragment { o with optimize := true } env a s1) (trFragment { o with optimize := false } env b s2)) ∧
    (∀ (a : List Node) c b, HintRelL a b → AttrsHyp o env c a b) ∧
    (∀ (a b : List Node), HintRelL a b → KidsHyp o env a b) := by
  apply lowering_induct
  case elem =>
    intro a n1 at1 c1 he hA hK b s1 s2 h hs
    rw [trElement_eq, trElement_eq]
    rcases elementParts_rel h with ⟨enone, _⟩ | ⟨n1', n2, at1', at2, c1', c2, e1, e2, hn, hat, hc⟩
    · cases he.symm.trans enone
    · cases (he.symm.trans e1 : some (n1, at1, c1) = some (n1', at1', c1'))
      rw [he, e2]
      exact elementCore_rel o env hn hat (hA _ at2 hat) (hK c2 hc) hs
  case notElem =>
    intro a he b s1 s2 h hs
    rw [trElement_eq, trElement_eq]
    rcases elementParts_rel h with ⟨e1, e2⟩ | ⟨_, _, _, _, _, _, e1, _⟩
    · rw [e1, e2]; exact ⟨.node _ _ (.cons h .nil), hs.panic _⟩
    · cases he.symm.trans e1
  case frag =>
    intro a c1 hf hK b s1 s2 h hs
    rw [trFragment_eq, trFragment_eq]
    rcases fragmentParts_rel h with ⟨enone, _⟩ | ⟨c1', c2, e1, e2, hc⟩
    · cases hf.symm.trans enone
    · cases (hf.symm.trans e1 : some c1 = some c1')
      rw [hf, e2]
      exact fragmentCore_rel o env (hK c2 hc) hs
  case notFrag =>
    intro a hf b s1 s2 h hs
    rw [trFragment_eq, trFragment_eq]
    rcases fragmentParts_rel h with ⟨e1, e2⟩ | ⟨_, _, e1, _⟩
    · rw [e1, e2]; exact ⟨.node _ _ (.cons h .nil), hs.panic _⟩
    · cases hf.symm.trans e1
  case anil =>
    intro c b hl acc1 acc2 s1 s2 hacc hs
    cases hl
    rw [trAttrs_nil, trAttrs_nil]; exact ⟨hacc, hs⟩
  case acons =>
    -- `hval`: the induction hypotheses for the attribute's value
    intro x xs hval ihA c b hl acc1 acc2 s1 s2 hacc hs
    cases hl with
      | @cons _ y _ ys hx hxs =>
        rw [trAttrs_cons, trAttrs_cons]
        have low : Sim OptRel (lowerAttr { o with optimize := true } env x s1) (lowerAttr { o with optimize := false } env y s2) := by
          unfold lowerAttr
          rcases attrParts_rel hx with ⟨h1, h2⟩ | ⟨n1, n2, v1, v2, h1, h2, hn, hv⟩
          · rw [h1, h2]; exact ⟨.none, hs⟩
          · rw [h1, h2]
            dsimp only
            rw [hv.kind, attrNameOf_rel hn]
            have asIs : Sim OptRel (none, s1) (none, s2) := ⟨.none, hs⟩
            have elem := (hval n1 v1 h1).1 v2 s1 s2 hv hs
            have frag := (hval n1 v1 h1).2 v2 s1 s2 hv hs
            exact rel_ite (rel_ite asIs elem) (rel_ite (rel_ite asIs frag) asIs)
        dsimp only
        rw [C12_attrs_blind o true, C12_attrs_blind o false]
        have step := attrStep_rel o c hx low.1 hacc low.2
        exact ihA c ys hxs _ _ _ _ step.1 step.2
  case knil =>
    intro b hl s1 s2 hs
    cases hl
    rw [trChildList_nil, trChildList_nil]; exact ⟨.nil, hs⟩
  case kcons =>
    intro x xs hE hF ihK b hl s1 s2 hs
    cases hl with
      | @cons _ y _ ys hx hxs =>
        have hrest := ihK ys hxs
        rw [trChildList_cons, trChildList_cons]
        have hview := childView_rel hx
        generalize childView x = v1 at hview ⊢
        generalize childView y = v2 at hview ⊢
        cases hview with
        | text t =>
          dsimp only
          split
          · exact hrest s1 s2 hs
          · have ctv := hs.importFromVue "createTextVNode"
            have more := hrest _ _ ctv.2
            rw [ctv.1]
            exact ⟨.cons (HintRel.refl _) more.1, more.2⟩
        | empty => exact hrest s1 s2 hs
        | @expr e1 e2 he =>
          have more := hrest _ _ (fillIfBound_rel o e1 e2 hs)
          exact ⟨.cons (rel_nArg he) more.1, more.2⟩
        | @spread e1 e2 he =>
          have more := hrest _ _ (fillIfBound_rel o e1 e2 hs)
          exact ⟨.cons (rel_nSpreadArg he) more.1, more.2⟩
        | element =>
          have e := hE y s1 s2 hx hs
          have more := hrest _ _ e.2
          exact ⟨.cons (rel_nArg e.1) more.1, more.2⟩
        | fragment =>
          have e := hF y s1 s2 hx hs
          have more := hrest _ _ e.2
          exact ⟨.cons (rel_nArg e.1) more.1, more.2⟩
        | bad =>
          have more := hrest s1 s2 hs
          exact ⟨more.1, more.2.panic _⟩

theorem trElement_rel (o : Opts) (env : Env) {a b : Node} (h : HintRel a b) {s1 s2 : St} (hs : StSim s1 s2) :
    HintRel (trElement { o with optimize := true } env a s1).1 (trElement { o with optimize := false } env b s2).1 ∧
      StSim (trElement { o with optimize := true } env a s1).2 (trElement { o with optimize := false } env b s2).2 :=
  (lowering_rel o env).1 a b s1 s2 h hs

theorem trFragment_rel (o : Opts) (env : Env) {a b : Node} (h : HintRel a b) {s1 s2 : St} (hs : StSim s1 s2) :
    HintRel (trFragment { o with optimize := true } env a s1).1 (trFragment { o with optimize := false } env b s2).1 ∧
      StSim (trFragment { o with optimize := true } env a s1).2 (trFragment { o with optimize := false } env b s2).2 :=
  (lowering_rel o env).2.1 a b s1 s2 h hs

end VueJsx
