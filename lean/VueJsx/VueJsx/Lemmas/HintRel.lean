/-
  HintRel: "equal except for optimisation hints", the relation of C12, stated directly on output trees.

  `HintRel a b` holds when `b` is `a` with — at some synthetic calls that have at least three arguments — everything after
  the third argument deleted (provided it has the shape of a patch flag and/or a dynamic-prop list) and, in the third
  argument of such a call, the trailing reserved `_: <number>` entry of a slots object (or of the slots object in the
  else-branch of the `_isSlot(..) ? .. : {..}` conditional) deleted.  Nothing else may differ.

  Left is the output with `optimize` on, right the output with it off: here, in `HintRelL`, `KidsRel`, `OptRel` and in every
  `_rel` lemma.  The relation is not symmetric (hints are missing on the right only).
-/
import VueJsx.Visitor
import VueJsx.Sem

namespace VueJsx

def isStrArg : Node → Bool
  | .mk .arg _ [.mk .str _ _] => true
  | _ => false

/-- what `optimize` may append after the third argument of a vnode call -/
def isHintsTail : List Node → Bool
  | [] => true
  | [.mk .arg _ [.mk .num _ _]] => true
  | [.mk .arg _ [.mk .array _ [.mk .list _ es]]] => es.all isStrArg
  | [.mk .arg _ [.mk .num _ _], .mk .arg _ [.mk .array _ [.mk .list _ es]]] => es.all isStrArg
  | _ => false

mutual
inductive HintRel : Node → Node → Prop
  | node (k : K) (as : List String) {ks1 ks2 : List Node} : HintRelL ks1 ks2 → HintRel (.mk k as ks1) (.mk k as ks2)
  | vnode (as las aas : List String) (c ta : Node) {a1 a2 b1 b2 k1 k2 : Node} {hs : List Node} :
      HintRel a1 a2 → HintRel b1 b2 → KidsRel k1 k2 → isHintsTail hs = true →
      HintRel (.mk .call ("syn" :: as) [c, .mk .list las (a1 :: b1 :: .mk .arg aas [k1] :: hs), ta])
              (.mk .call ("syn" :: as) [c, .mk .list las [a2, b2, .mk .arg aas [k2]], ta])
inductive HintRelL : List Node → List Node → Prop
  | nil : HintRelL [] []
  | cons {x y : Node} {xs ys : List Node} : HintRel x y → HintRelL xs ys → HintRelL (x :: xs) (y :: ys)
inductive KidsRel : Node → Node → Prop
  | same {k1 k2 : Node} : HintRel k1 k2 → KidsRel k1 k2
  | slots (as las : List String) {ps1 ps2 : List Node} {h : Node} : HintRelL ps1 ps2 → isHintEntry h = true →
      KidsRel (.mk .object as [.mk .list las (ps1 ++ [h])]) (.mk .object as [.mk .list las ps2])
  | cond (as oas las : List String) {t1 t2 c1 c2 : Node} {ps1 ps2 : List Node} {h : Node} :
      HintRel t1 t2 → HintRel c1 c2 → HintRelL ps1 ps2 → isHintEntry h = true →
      KidsRel (.mk .cond as [t1, c1, .mk .object oas [.mk .list las (ps1 ++ [h])]])
              (.mk .cond as [t2, c2, .mk .object oas [.mk .list las ps2]])
end

mutual
theorem HintRel.refl : ∀ n : Node, HintRel n n
  | .mk k as ks => .node k as (HintRelL.refl ks)
theorem HintRelL.refl : ∀ l : List Node, HintRelL l l
  | [] => .nil
  | x :: xs => .cons (HintRel.refl x) (HintRelL.refl xs)
end

/-- (`induction` itself does not take a relation from a `mutual` block) -/
theorem HintRelL.induct {P : ∀ a b, HintRelL a b → Prop} (nil : P [] [] .nil)
    (cons : ∀ {x y xs ys} (hx : HintRel x y) (hxs : HintRelL xs ys), P xs ys hxs → P (x :: xs) (y :: ys) (.cons hx hxs)) :
    ∀ {a b} (h : HintRelL a b), P a b h
  | _, _, .nil => nil
  | _, _, .cons hx hxs => cons hx hxs (induct nil cons hxs)

theorem HintRelL.append {a1 a2 b1 b2 : List Node} (h1 : HintRelL a1 a2) (h2 : HintRelL b1 b2) : HintRelL (a1 ++ b1) (a2 ++ b2) := by
  induction h1 using HintRelL.induct with
  | nil => exact h2
  | cons hx _ ih => exact .cons hx ih

theorem HintRelL.length {a b : List Node} (h : HintRelL a b) : a.length = b.length := by
  induction h using HintRelL.induct with
  | nil => rfl
  | cons _ _ ih => simp [ih]

theorem HintRelL.isEmpty {a b : List Node} (h : HintRelL a b) : a.isEmpty = b.isEmpty := by
  cases h <;> rfl

theorem HintRelL.single {x y : Node} (h : HintRel x y) : HintRelL [x] [y] := .cons h .nil

theorem HintRelL.snoc {a b : List Node} {x y : Node} (h : HintRelL a b) (hx : HintRel x y) : HintRelL (a ++ [x]) (b ++ [y]) :=
  h.append (.cons hx .nil)

def OptRel : Option Node → Option Node → Prop
  | none, none => True
  | some x, some y => HintRel x y
  | _, _ => False

def OptRelL : Option (List Node) → Option (List Node) → Prop
  | none, none => True
  | some x, some y => HintRelL x y
  | _, _ => False

theorem OptRel.refl (o : Option Node) : OptRel o o := by
  cases o <;> simp [OptRel, HintRel.refl]

@[elab_as_elim]
theorem OptRel.cases {motive : Option Node → Option Node → Prop} {o1 o2 : Option Node} (h : OptRel o1 o2)
    (hn : motive .none .none) (hs : ∀ {x y}, HintRel x y → motive (.some x) (.some y)) : motive o1 o2 :=
  match o1, o2, h with
  | .none, .none, _ => hn
  | .some _, .some _, h => hs h

@[elab_as_elim]
theorem OptRelL.cases {motive : Option (List Node) → Option (List Node) → Prop} {o1 o2 : Option (List Node)} (h : OptRelL o1 o2)
    (hn : motive .none .none) (hs : ∀ {x y}, HintRelL x y → motive (.some x) (.some y)) : motive o1 o2 :=
  match o1, o2, h with
  | .none, .none, _ => hn
  | .some _, .some _, h => hs h

theorem OptRel.elim {o1 o2 : Option Node} (h : OptRel o1 o2) :
    (o1 = none ∧ o2 = none) ∨ ∃ x y, o1 = some x ∧ o2 = some y ∧ HintRel x y :=
  h.cases (.inl ⟨rfl, rfl⟩) fun hxy => .inr ⟨_, _, rfl, rfl, hxy⟩

theorem OptRelL.elim {o1 o2 : Option (List Node)} (h : OptRelL o1 o2) :
    (o1 = none ∧ o2 = none) ∨ ∃ x y, o1 = some x ∧ o2 = some y ∧ HintRelL x y :=
  h.cases (.inl ⟨rfl, rfl⟩) fun hxy => .inr ⟨_, _, rfl, rfl, hxy⟩

theorem OptRel.isSome {o1 o2 : Option Node} (h : OptRel o1 o2) : o1.isSome = o2.isSome := h.cases rfl fun _ => rfl

theorem OptRel.some {x y : Node} (h : HintRel x y) : OptRel (some x) (some y) := h
theorem OptRel.none : OptRel none none := trivial

theorem HintRelL.getElem?_rel {a b : List Node} (h : HintRelL a b) (i : Nat) : OptRel a[i]? b[i]? := by
  induction h using HintRelL.induct generalizing i with
  | nil => exact .none
  | cons hx _ ih =>
    cases i with
    | zero => exact .some hx
    | succ j => simpa using ih j

theorem HintRelL.getElem? {a b : List Node} (h : HintRelL a b) (i : Nat) :
    (a[i]? = none ∧ b[i]? = none) ∨ ∃ x y, a[i]? = some x ∧ b[i]? = some y ∧ HintRel x y :=
  (h.getElem?_rel i).elim

theorem HintRelL.take {a b : List Node} (h : HintRelL a b) (n : Nat) : HintRelL (a.take n) (b.take n) := by
  induction h using HintRelL.induct generalizing n with
  | nil => simpa using HintRelL.nil
  | cons hx _ ih =>
    cases n with
    | zero => exact .nil
    | succ m => exact .cons hx (ih m)

theorem HintRelL.drop {a b : List Node} (h : HintRelL a b) (n : Nat) : HintRelL (a.drop n) (b.drop n) := by
  induction h using HintRelL.induct generalizing n with
  | nil => simpa using HintRelL.nil
  | cons hx hxs ih =>
    cases n with
    | zero => exact .cons hx hxs
    | succ m => exact ih m

theorem HintRelL.map {α : Type} (f g : α → Node) (l : List α) (h : ∀ x ∈ l, HintRel (f x) (g x)) : HintRelL (l.map f) (l.map g) := by
  induction l with
  | nil => exact .nil
  | cons x xs ih => exact .cons (h x (by simp)) (ih (fun y hy => h y (by simp [hy])))

theorem HintRelL.foldl {β : Type} {R : β → β → Prop} {f g : β → Node → β}
    (step : ∀ {a b x y}, R a b → HintRel x y → R (f a x) (g b y)) {l1 l2 : List Node} (h : HintRelL l1 l2) {a b : β} (hab : R a b) :
    R (l1.foldl f a) (l2.foldl g b) := by
  induction h using HintRelL.induct generalizing a b with
  | nil => exact hab
  | cons hx _ ih => exact ih (step hab hx)

theorem HintRel.kind {a b : Node} (h : HintRel a b) : a.kind = b.kind := by
  cases h <;> rfl

theorem HintRel.atoms {a b : Node} (h : HintRel a b) : a.atoms = b.atoms := by
  cases h <;> rfl

theorem HintRel.kids_of_noncall {k1 k2 : K} {as1 as2 : List String} {ks1 ks2 : List Node}
    (h : HintRel (.mk k1 as1 ks1) (.mk k2 as2 ks2)) (hk : k1 ≠ .call) : k1 = k2 ∧ as1 = as2 ∧ HintRelL ks1 ks2 := by
  cases h with
  | node k as hl => exact ⟨rfl, rfl, hl⟩
  | vnode => exact absurd rfl hk

theorem HintRel.kind_cases {a b : Node} (h : HintRel a b) (k : K) (hk : k ≠ .call) :
    (∃ as ks1 ks2, a = .mk k as ks1 ∧ b = .mk k as ks2 ∧ HintRelL ks1 ks2) ∨ (a.kind ≠ k ∧ b.kind ≠ k) := by
  cases h with
  | vnode => exact .inr ⟨fun e => hk e.symm, fun e => hk e.symm⟩
  | node k' as hl =>
    by_cases e : k' = k
    · subst e; exact .inl ⟨_, _, _, rfl, rfl, hl⟩
    · exact .inr ⟨e, e⟩

theorem listParts_rel {a b : Node} (h : HintRel a b) :
    (∃ las l1 l2, a = .mk .list las l1 ∧ b = .mk .list las l2 ∧ HintRelL l1 l2) ∨ (a.kind ≠ .list ∧ b.kind ≠ .list) :=
  h.kind_cases .list (by decide)

/- How to read an inversion: with `h : HintRel (.mk k as [x1, x2]) b` and `k` not `call`,
       obtain ⟨_, _, _ | ⟨h1, _ | ⟨h2, ⟨⟩ | _⟩⟩⟩ := h
   turns `b` into `.mk k as [y1, y2]` with `h1 : HintRel x1 y1`, `h2 : HintRel x2 y2`.  The outer `⟨_, _, hl⟩` is `HintRel.node`
   (`vnode` does not unify; at a call: `⟨_, _, hl⟩ | _`); in place of `hl` stands its own inversion, `_ | ⟨hi, …⟩` (`nil | cons`)
   per child and `⟨⟩ | _` at the end.  The list step alone, `_ | ⟨hx, hr⟩` on `h : HintRelL (x :: xs) l`, makes `l` a `y :: ys`. -/

end VueJsx
