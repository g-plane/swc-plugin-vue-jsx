/-
  Equations of `resolveStrings`, `resolveElements` and `inferRuntime`, one per arm the property files reason about, each under
  `st.typeGaveUp = false`, which lets `enterRes` pass the state on.  The literal, parentheses, alias and `extends` equations of
  `resolveElements` are Props/C16's `C16_literal`, `C16_paren`, `C16_alias`, `C16_interface_extends`.
  Before them the two facts about a registry after an update (`lookupReg_…`; that the hooks write nothing else is
  Lemmas/VisitorEqs' `ifaceHook_frame`, `aliasHook_frame`, `collectTypes_frame`), at the end membership in `rtInsert` / `rtExtend`.
-/
import VueJsx.ResolveType

namespace VueJsx

theorem enterRes_ok {fuel : Nat} {st : St} (h : st.typeGaveUp = false) : enterRes fuel st = some st := by
  unfold enterRes
  split
  · cases st; simp_all     -- at the outermost call `enterRes` resets the flag to `false`: under `h`, what is there already
  · simp [h]

@[simp] theorem err_typeGaveUp (st : St) (m : String) : (st.err m).typeGaveUp = st.typeGaveUp := rfl

theorem lookupReg_replace {l : List ((String × String) × Node)} {key : String × String} {v : Node}
    (h : (lookupReg l key).isSome = true) :
    lookupReg (l.map fun p => if p.1 == key then (p.1, v) else p) key = some v := by
  induction l with
  | nil => simp [lookupReg] at h
  | cons p rest ih =>
    simp only [lookupReg, List.map_cons, List.find?_cons] at h ih ⊢
    by_cases hp : (p.1 == key) = true
    · simp [hp]
    · simp only [hp] at h
      simpa [hp] using ih h

theorem lookupReg_append_new {l : List ((String × String) × Node)} {key : String × String} {v : Node}
    (h : lookupReg l key = none) : lookupReg (l ++ [(key, v)]) key = some v := by
  simp only [lookupReg, Option.map_eq_none_iff] at h
  simp [lookupReg, List.find?_append, h]

/-- the step of `resolveStrings`' fold over a union, named -/
def unionStep (fuel : Nat) (acc : List String × St) (t : Node) : List String × St :=
  match t with
  | .mk .tsLitType _ [.mk .str (v :: _) _] => (acc.1 ++ [v], acc.2)
  | t => let (more, st) := resolveStrings fuel acc.2 t; (acc.1 ++ more, st)

theorem resolveStrings_lit {fuel : Nat} {st : St} {as : List String} {v : String} {r : List String} {ks : List Node}
    (hg : st.typeGaveUp = false) :
    resolveStrings (fuel + 1) st (.mk .tsLitType as [.mk .str (v :: r) ks]) = ([v], st) := by
  rw [resolveStrings, enterRes_ok hg]

theorem resolveStrings_never {fuel : Nat} {st : St} {ks : List Node} (hg : st.typeGaveUp = false) :
    resolveStrings (fuel + 1) st (.mk .tsKeyword ["never"] ks) = ([], st) := by
  simp [resolveStrings, enterRes_ok hg]

theorem resolveStrings_paren {fuel : Nat} {st : St} {as : List String} {t : Node} (hg : st.typeGaveUp = false) :
    resolveStrings (fuel + 1) st (.mk .tsParen as [t]) = resolveStrings fuel st t := by
  rw [resolveStrings, enterRes_ok hg]

theorem resolveStrings_union {fuel : Nat} {st : St} {as las : List String} {ts : List Node} (hg : st.typeGaveUp = false) :
    resolveStrings (fuel + 1) st (.mk .tsUnion as [.mk .list las ts]) = ts.foldl (unionStep fuel) ([], st) := by
  rw [resolveStrings]
  simp only [enterRes_ok hg]
  rfl

theorem resolveStrings_alias {fuel : Nat} {st : St} {n b : String} {ir as : List String} {iks rest : List Node} {target : Node}
    (h : lookupReg st.typeAliases (n, b) = some target) (hg : st.typeGaveUp = false) :
    resolveStrings (fuel + 1) st (.mk .tsTypeRef as (.mk .ident (n :: b :: ir) iks :: rest)) = resolveStrings fuel st target := by
  simp [resolveStrings, h, enterRes_ok hg]

/-- `unionStep` takes a string literal directly instead of resolving it: the same as long as there is fuel to resolve it, and there
    is, since with none `resolveStrings` gives up, which sets `typeGaveUp`, against `h`. -/
theorem unionStep_eq {fuel : Nat} {st : St} {acc b : List String} {t : Node} (hg : st.typeGaveUp = false)
    (h : resolveStrings fuel st t = (b, st)) : unionStep fuel (acc, st) t = (acc ++ b, st) := by
  unfold unionStep
  split
  · cases fuel with
    | zero =>
      have h0 : (giveUp st).typeGaveUp = st.typeGaveUp := congrArg (·.2.typeGaveUp) h
      rw [giveUp, hg] at h0
      cases h0
    | succ f => rw [resolveStrings_lit hg] at h; cases h; rfl
  · simp only [h]

theorem resolveElements_parts {k : K} (hk : k = .tsUnion ∨ k = .tsIntersection) {fuel : Nat} {st : St} {as las : List String}
    {ts : List Node} (hg : st.typeGaveUp = false) :
    resolveElements (fuel + 1) st (.mk k as [.mk .list las ts])
      = ts.foldl (fun acc t => (acc.1 ++ (resolveElements fuel acc.2 t).1, (resolveElements fuel acc.2 t).2)) ([], st) := by
  rcases hk with rfl | rfl <;> simp [resolveElements, enterRes_ok hg]

theorem resolveElements_fnType {fuel : Nat} {st : St} {as : List String} {params tparams ann : Node} (hg : st.typeGaveUp = false) :
    resolveElements (fuel + 1) st (.mk .tsFnType as [params, tparams, ann]) = ([.mk .tsCallSig [] [params, ann, tparams]], st) := by
  simp [resolveElements, enterRes_ok hg]

theorem resolveElements_partial_required (v : Bool) {n : String} {fuel : Nat} {st : St} {ir as : List String} {iks : List Node}
    {tp p : Node} (h1 : lookupReg st.typeAliases (n, "u") = none) (h2 : lookupReg st.interfaces (n, "u") = none)
    (hn : n = if v then "Partial" else "Required") (hp : (typeParamsList tp).head? = some p) (hg : st.typeGaveUp = false) :
    resolveElements (fuel + 1) st (.mk .tsTypeRef as [.mk .ident (n :: "u" :: ir) iks, tp])
      = ((resolveElements fuel st p).1.map (setOptional v), (resolveElements fuel st p).2) := by
  cases v
  · obtain rfl : n = "Required" := hn
    simp [resolveElements, enterRes_ok hg, h1, h2, hp]
  · obtain rfl : n = "Partial" := hn
    simp [resolveElements, enterRes_ok hg, h1, h2, hp]

theorem resolveElements_pick_omit (keep : Bool) {n : String} {fuel : Nat} {st st' : St} {ir as keys : List String}
    {iks rest : List Node} {tp objT keysT : Node}
    (h1 : lookupReg st.typeAliases (n, "u") = none) (h2 : lookupReg st.interfaces (n, "u") = none)
    (hn : n = if keep then "Pick" else "Omit") (hp : typeParamsList tp = objT :: keysT :: rest)
    (hk : resolveStrings fuel st keysT = (keys, st')) (hg : st.typeGaveUp = false) :
    resolveElements (fuel + 1) st (.mk .tsTypeRef as [.mk .ident (n :: "u" :: ir) iks, tp])
      = ((resolveElements fuel st' objT).1.filter (fun m =>
            match memberKeyName m with
            | some (some k) => if keep then keys.contains k else !keys.contains k
            | _ => !keep),
         (resolveElements fuel st' objT).2) := by
  -- `rfl`: the model's `match` on `memberKeyName m` and this statement's are two auxiliary definitions with the same arms
  cases keep
  · obtain rfl : n = "Omit" := hn
    simp [resolveElements, enterRes_ok hg, h1, h2, hp, hk]
    rfl
  · obtain rfl : n = "Pick" := hn
    simp [resolveElements, enterRes_ok hg, h1, h2, hp, hk]
    rfl

/-- `inferRuntime`'s keyword table, named -/
def kwRt (k : String) : List RT :=
  if k == "string" then [some "String"] else if k == "number" then [some "Number"]
  else if k == "boolean" then [some "Boolean"] else if k == "object" then [some "Object"]
  else if k == "null" then [none] else if k == "bigint" then [some "BigInt"]
  else if k == "symbol" then [some "Symbol"]
  else if k == "any" || k == "unknown" then [some ANY_TYPE] else [none]

theorem inferRuntime_keyword {fuel : Nat} {st : St} {k : String} {ks : List Node} (hg : st.typeGaveUp = false) :
    inferRuntime (fuel + 1) st (.mk .tsKeyword [k] ks) = (kwRt k, st) := by
  simp [inferRuntime, enterRes_ok hg, kwRt]

theorem inferRuntime_wrapped {k : K} (hk : k = .tsParen ∨ k = .tsOptional) {fuel : Nat} {st : St} {as : List String} {t : Node}
    (hg : st.typeGaveUp = false) : inferRuntime (fuel + 1) st (.mk k as [t]) = inferRuntime fuel st t := by
  rcases hk with rfl | rfl <;> simp [inferRuntime, enterRes_ok hg]

theorem inferRuntime_union {fuel : Nat} {st : St} {as las : List String} {ts : List Node} (hg : st.typeGaveUp = false) :
    inferRuntime (fuel + 1) st (.mk .tsUnion as [.mk .list las ts])
      = ts.foldl (fun acc t => (rtExtend acc.1 (inferRuntime fuel acc.2 t).1, (inferRuntime fuel acc.2 t).2)) ([], st) := by
  simp [inferRuntime, enterRes_ok hg]

theorem inferRuntime_typeLit {fuel : Nat} {st : St} {as las : List String} {members : List Node} (hg : st.typeGaveUp = false) :
    inferRuntime (fuel + 1) st (.mk .tsTypeLit as [.mk .list las members]) = (orObject (memberRuntime members), st) := by
  simp [inferRuntime, enterRes_ok hg]

theorem inferRuntime_nonNullable {fuel : Nat} {st : St} {ir as : List String} {iks : List Node} {tp p : Node}
    (h1 : lookupReg st.typeAliases ("NonNullable", "u") = none) (h2 : lookupReg st.interfaces ("NonNullable", "u") = none)
    (hp : (typeParamsList tp).head? = some p) (hg : st.typeGaveUp = false) :
    inferRuntime (fuel + 1) st (.mk .tsTypeRef as [.mk .ident ("NonNullable" :: "u" :: ir) iks, tp])
      = ((inferRuntime fuel st p).1.filter (·.isSome), (inferRuntime fuel st p).2) := by
  simp [inferRuntime, enterRes_ok hg, h1, h2, hp]

theorem rtExtend_cons (xs : List RT) (y : RT) (ys : List RT) : rtExtend xs (y :: ys) = rtExtend (rtInsert y xs) ys := rfl

theorem rtExtend_prefix (xs ys : List RT) : ∃ zs, rtExtend xs ys = xs ++ zs := by
  induction ys generalizing xs with
  | nil => exact ⟨[], (List.append_nil xs).symm⟩
  | cons y rest ih =>
    obtain ⟨zs, hz⟩ := ih (rtInsert y xs)
    rw [rtExtend_cons, hz]
    unfold rtInsert
    split
    · exact ⟨zs, rfl⟩
    · exact ⟨y :: zs, List.append_assoc ..⟩

theorem mem_rtInsert {x y : RT} {xs : List RT} : y ∈ rtInsert x xs ↔ y ∈ xs ∨ y = x := by
  unfold rtInsert
  split
  · next h => exact ⟨.inl, fun h' => h'.elim id fun e => e ▸ by simpa using h⟩
  · simp

theorem mem_rtExtend {y : RT} : ∀ {ys xs : List RT}, y ∈ rtExtend xs ys ↔ y ∈ xs ∨ y ∈ ys
  | [], _ => by simp [rtExtend]
  | z :: zs, xs => by rw [rtExtend_cons, mem_rtExtend, mem_rtInsert, List.mem_cons, or_assoc]

end VueJsx
