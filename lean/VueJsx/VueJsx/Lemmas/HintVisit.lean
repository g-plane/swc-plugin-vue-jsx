/-
  HintVisit: the C12 simulation through the whole traversal (`visit` with its hooks) and the module.
-/
import VueJsx.Lemmas.HintLowering
import VueJsx.Lemmas.HintHooks
import VueJsx.Lemmas.Visit

namespace VueJsx

theorem exprHook_rel (o : Opts) (env : Env) (pos : Pos) {n1 n2 : Node} (hn : HintRel n1 n2) {s1 s2 : St} (hs : StSim s1 s2) :
    HintRel (exprHook { o with optimize := true } env pos n1 s1).1 (exprHook { o with optimize := false } env pos n2 s2).1 ∧
      StSim (exprHook { o with optimize := true } env pos n1 s1).2 (exprHook { o with optimize := false } env pos n2 s2).2 := by
  rw [exprHook_eq, exprHook_eq, hn.kind, assignLeftOf_rel hn]
  show Sim HintRel _ _
  refine rel_ite ⟨hn, hs⟩ <| rel_ite (trElement_rel o env hn hs) <| rel_ite (trFragment_rel o env hn hs) ?_
  split
  · exact ⟨hn, hs.setLeft _⟩
  · exact ⟨hn, hs⟩

/-- with `resolveType` off a node's own hook is that of opening elements or that of import declarations (`kindHook_calm`) -/
theorem kindHook_rel (o : Opts) (env : Env) (hrt : o.resolveType = false) {n1 n2 : Node} (hn : HintRel n1 n2) {s1 s2 : St} (hs : StSim s1 s2) :
    HintRel (kindHook { o with optimize := true } env n1 s1).1 (kindHook { o with optimize := false } env n2 s2).1 ∧
      StSim (kindHook { o with optimize := true } env n1 s1).2 (kindHook { o with optimize := false } env n2 s2).2 := by
  obtain ⟨k, as, ks1⟩ := n1
  obtain ⟨k2, as2, ks2⟩ := n2
  obtain ⟨rfl, rfl⟩ : k = k2 ∧ as = as2 := ⟨hn.kind, hn.atoms⟩
  by_cases hk : k = .jsxOpening
  · subst hk; exact openingHook_rel hn hs
  · rw [kindHook_calm { o with optimize := true } env k as ks1 s1 hk (.inl hrt),
      kindHook_calm { o with optimize := false } env k as ks2 s2 hk (.inl hrt)]
    exact ⟨hn, importHook_rel hn hs⟩

theorem visit_rel_all (o : Opts) (env : Env) (hrt : o.resolveType = false) :
    (∀ n pos s1 s2, StSim s1 s2 →
      Sim HintRel (visit { o with optimize := true } env n pos s1) (visit { o with optimize := false } env n pos s2)) ∧
    (∀ ks k pos i s1 s2, StSim s1 s2 →
      Sim HintRelL (visitKids { o with optimize := true } env k pos i ks s1) (visitKids { o with optimize := false } env k pos i ks s2)) := by
  apply Node.visitInductL
  case stmts =>
    intro as ks ih pos s1 s2 hs
    rw [visit_stmts_eq, visit_stmts_eq]
    have kids := ih .stmts pos 0 _ _ hs.clearPending
    have drained := drainInto_rel kids.1 kids.2
    exact ⟨.node _ _ drained.1, drained.2.restore hs⟩
  case arrow =>
    intro as params rest ihp ihr pos s1 s2 hs
    rw [visit_arrow_cons_eq, visit_arrow_cons_eq]
    have params' := ihp (kidPos .arrow pos 0) _ _ hs
    have rest' := ihr .arrow pos 1 _ _ params'.2.clearPending
    have arrow := drainArrow_rel (HintRel.node .arrow as (.cons params'.1 rest'.1)) rest'.2
    exact exprHook_rel o env pos arrow.1 (arrow.2.restoreAppend params'.2)
  case other =>
    intro k as ks hst har ih pos s1 s2 hs
    rw [visit_other hst har, visit_other hst har]
    have kids := ih k pos 0 _ _ hs
    have hook := kindHook_rel o env hrt (HintRel.node k as kids.1) kids.2
    exact exprHook_rel o env pos hook.1 hook.2
  case nil =>
    intro k pos i s1 s2 hs
    rw [visitKids_nil, visitKids_nil]; exact ⟨.nil, hs⟩
  case cons =>
    intro c cs ihc ihcs k pos i s1 s2 hs
    rw [visitKids_cons, visitKids_cons]
    have first := ihc (kidPos k pos i) _ _ hs
    have more := ihcs k pos (i + 1) _ _ first.2
    exact ⟨.cons first.1 more.1, more.2⟩

theorem visit_rel (o : Opts) (env : Env) (hrt : o.resolveType = false) (n : Node) (pos : Pos) {s1 s2 : St} (hs : StSim s1 s2) :
    HintRel (visit { o with optimize := true } env n pos s1).1 (visit { o with optimize := false } env n pos s2).1 ∧
      StSim (visit { o with optimize := true } env n pos s1).2 (visit { o with optimize := false } env n pos s2).2 :=
  (visit_rel_all o env hrt).1 n pos s1 s2 hs

theorem visitKids_rel (o : Opts) (env : Env) (hrt : o.resolveType = false) (k : K) (pos : Pos) (i : Nat) (ks : List Node) {s1 s2 : St} (hs : StSim s1 s2) :
    Sim HintRelL (visitKids { o with optimize := true } env k pos i ks s1) (visitKids { o with optimize := false } env k pos i ks s2) :=
  (visit_rel_all o env hrt).2 ks k pos i s1 s2 hs

theorem transformModule_rel (o : Opts) (env : Env) (hrt : o.resolveType = false) (m : Node) :
    HintRel (transformModule { o with optimize := true } env m).1 (transformModule { o with optimize := false } env m).1 ∧
      StSim (transformModule { o with optimize := true } env m).2 (transformModule { o with optimize := false } env m).2 := by
  show Sim HintRel _ _
  unfold transformModule
  split
  · rename_i as las items restKids
    -- the start state does not read `optimize`: both runs begin in the same one
    have items' := visitKids_rel o env hrt .list .normal 0 items
      (StSim.refl (startState o env (.mk .module as (.mk .list las items :: restKids))))
    have rest' := visitKids_rel o env hrt .module .normal 1 restKids items'.2
    have fin := finishModule_rel items'.1 rest'.2
    exact ⟨.node _ _ (.cons (.node _ _ fin.1) rest'.1), fin.2⟩
  · exact ⟨.refl _, .refl _⟩

end VueJsx
