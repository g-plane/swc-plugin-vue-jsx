/-
  HintDecisions: every test the lowering makes on (already lowered) sub-expressions gives the same answer on
  `HintRel`-related inputs — none of them looks inside a synthetic call — and every sub-expression it extracts from
  related inputs is related again.  Method throughout: split on the function's OWN match first (its matching arm makes the
  left node concrete), then invert the relation (how to read an inversion: end of HintRel); the fall-through arm needs the
  same inversion from the right.  Never `cases` on the kind (ninety goals).
-/
import VueJsx.Lemmas.HintRel
import VueJsx.Lemmas.AttrsEqs

namespace VueJsx

theorem HintRel.identName {a b : Node} (h : HintRel a b) : identName a = identName b := by
  unfold VueJsx.identName
  split
  · obtain ⟨_, _, _⟩ := h; rfl
  · rename_i hne
    split
    · obtain ⟨_, _, _⟩ := h; exact (hne _ _ _ rfl).elim
    · rfl

theorem HintRel.identBind {a b : Node} (h : HintRel a b) : identBind a = identBind b := by
  unfold VueJsx.identBind
  split
  · obtain ⟨_, _, _⟩ := h; rfl
  · rename_i hne
    split
    · obtain ⟨_, _, _⟩ := h; exact (hne _ _ _ _ rfl).elim
    · rfl

theorem HintRel.isIdent {a b : Node} (h : HintRel a b) : isIdent a = isIdent b := by
  unfold VueJsx.isIdent
  split
  · obtain ⟨_, _, _⟩ := h; rfl
  · rename_i hne
    split
    · obtain ⟨_, _, _⟩ := h; exact (hne _ _ rfl).elim
    · rfl

theorem HintRel.isNone {a b : Node} (h : HintRel a b) : isNone a = isNone b := by
  unfold VueJsx.isNone
  split
  · obtain ⟨_, _, _⟩ := h; rfl
  · rename_i hne
    split
    · obtain ⟨_, _, _⟩ := h; exact (hne _ _ rfl).elim
    · rfl

theorem HintRel.isUnresolvedIdent {a b : Node} (h : HintRel a b) : isUnresolvedIdent a = isUnresolvedIdent b := by
  simp [VueJsx.isUnresolvedIdent, h.identBind]

theorem HintRel.ident_inv {as : List String} {ks : List Node} {b : Node} (h : HintRel (.mk .ident as ks) b) :
    ∃ ks', b = .mk .ident as ks' ∧ HintRelL ks ks' := by
  cases h with
  | node k as hl => exact ⟨_, rfl, hl⟩

theorem attrNameOf_rel {a b : Node} (h : HintRel a b) : attrNameOf a = attrNameOf b := by
  unfold attrNameOf
  split
  · obtain ⟨_, _, _⟩ := h; rfl
  · obtain ⟨_, _, _ | ⟨h1, _ | ⟨h2, ⟨⟩ | _⟩⟩⟩ := h
    simp only [h1.identName, h2.identName]
  · rename_i h1 h2
    split
    · obtain ⟨_, _, _⟩ := h; exact (h1 _ _ _ rfl).elim
    · obtain ⟨_, _, _ | ⟨_, _ | ⟨_, ⟨⟩ | _⟩⟩⟩ := h; exact (h2 _ _ _ rfl).elim
    · rfl

theorem tagLocalName_rel {a b : Node} (h : HintRel a b) : tagLocalName a = tagLocalName b := by
  unfold tagLocalName
  split
  · obtain ⟨_, _, _⟩ := h; rfl
  · obtain ⟨_, _, _ | ⟨_, _ | ⟨h2, ⟨⟩ | _⟩⟩⟩ := h; exact h2.identName
  · obtain ⟨_, _, _ | ⟨_, _ | ⟨h2, ⟨⟩ | _⟩⟩⟩ := h; exact h2.identName
  · rename_i h1 h2 h3
    split
    · obtain ⟨_, _, _⟩ := h; exact (h1 _ _ _ rfl).elim
    · obtain ⟨_, _, _ | ⟨_, _ | ⟨_, ⟨⟩ | _⟩⟩⟩ := h; exact (h2 _ _ _ rfl).elim
    · obtain ⟨_, _, _ | ⟨_, _ | ⟨_, ⟨⟩ | _⟩⟩⟩ := h; exact (h3 _ _ _ rfl).elim
    · rfl

theorem isComponent_rel (env : Env) {a b : Node} (h : HintRel a b) : isComponent env a = isComponent env b := by
  unfold isComponent
  rw [tagLocalName_rel h]
  split
  · obtain ⟨_, _, _⟩ := h; rfl
  · obtain ⟨_, _, _ | ⟨h1, _ | ⟨h2, ⟨⟩ | _⟩⟩⟩ := h
    simp only [h1.identName, h2.identName]
  · rename_i h1 h2
    split
    · obtain ⟨_, _, _⟩ := h; exact (h1 _ _ rfl).elim
    · obtain ⟨_, _, _ | ⟨_, _ | ⟨_, ⟨⟩ | _⟩⟩⟩ := h; exact (h2 _ _ _ rfl).elim
    · rfl

theorem containerExpr_rel {a b : Node} (h : HintRel a b) : OptRel (containerExpr a) (containerExpr b) := by
  unfold containerExpr
  split
  · obtain ⟨_, _, _ | ⟨he, ⟨⟩ | _⟩⟩ := h
    dsimp only
    split
    · obtain ⟨_, _, _⟩ := he; exact .none
    · rename_i hne
      split
      · obtain ⟨_, _, _⟩ := he; exact (hne _ _ rfl).elim
      · exact .some he
  · rename_i hne
    split
    · obtain ⟨_, _, _ | ⟨_, ⟨⟩ | _⟩⟩ := h; exact (hne _ _ rfl).elim
    · exact .none

theorem arrayElems_rel {a b : Node} (h : HintRel a b) : OptRelL (arrayElems a) (arrayElems b) := by
  unfold arrayElems
  split
  · obtain ⟨_, _, _ | ⟨⟨_, _, hl⟩, ⟨⟩ | _⟩⟩ := h
    exact hl
  · rename_i hne
    split
    · obtain ⟨_, _, _ | ⟨⟨_, _, _⟩, ⟨⟩ | _⟩⟩ := h; exact (hne _ _ _ rfl).elim
    · trivial

theorem plainElem_rel {a b : List Node} (h : HintRelL a b) (i : Nat) : OptRel (plainElem a i) (plainElem b i) := by
  unfold plainElem
  refine (h.getElem?_rel i).cases .none fun hxy => ?_
  split
  · rename_i heq; cases heq
    obtain ⟨_, _, _ | ⟨he, ⟨⟩ | _⟩⟩ := hxy; exact .some he
  · rename_i hne
    split
    · rename_i heq; cases heq
      obtain ⟨_, _, _ | ⟨_, ⟨⟩ | _⟩⟩ := hxy; exact (hne _ _ rfl).elim
    · exact .none

theorem attrParts_rel {a b : Node} (h : HintRel a b) :
    (attrParts a = none ∧ attrParts b = none) ∨ ∃ n1 n2 v1 v2, attrParts a = some (n1, v1) ∧ attrParts b = some (n2, v2) ∧ HintRel n1 n2 ∧ HintRel v1 v2 := by
  unfold attrParts
  split
  · obtain ⟨_, _, _ | ⟨h1, _ | ⟨h2, ⟨⟩ | _⟩⟩⟩ := h
    exact .inr ⟨_, _, _, _, rfl, rfl, h1, h2⟩
  · rename_i hne
    split
    · obtain ⟨_, _, _ | ⟨_, _ | ⟨_, ⟨⟩ | _⟩⟩⟩ := h
      exact (hne _ _ _ rfl).elim
    · exact .inl ⟨rfl, rfl⟩

theorem spreadPart_rel {a b : Node} (h : HintRel a b) : OptRel (spreadPart a) (spreadPart b) := by
  unfold spreadPart
  split
  · obtain ⟨_, _, _ | ⟨h1, ⟨⟩ | _⟩⟩ := h
    exact .some h1
  · rename_i hne
    split
    · obtain ⟨_, _, _ | ⟨_, ⟨⟩ | _⟩⟩ := h
      exact (hne _ _ rfl).elim
    · exact .none

theorem objLitParts_rel {a b : Node} (h : HintRel a b) :
    (objLitParts a = none ∧ objLitParts b = none) ∨
      ∃ oas las p1 p2, objLitParts a = some (oas, las, p1) ∧ objLitParts b = some (oas, las, p2) ∧ HintRelL p1 p2 := by
  unfold objLitParts
  split
  · obtain ⟨_, _, _ | ⟨⟨_, _, hl⟩, ⟨⟩ | _⟩⟩ := h
    exact .inr ⟨_, _, _, _, rfl, rfl, hl⟩
  · rename_i hne
    split
    · obtain ⟨_, _, _ | ⟨⟨_, _, _⟩, ⟨⟩ | _⟩⟩ := h
      exact (hne _ _ _ rfl).elim
    · exact .inl ⟨rfl, rfl⟩

theorem kvStrParts_rel {a b : Node} (h : HintRel a b) :
    (kvStrParts a = none ∧ kvStrParts b = none) ∨
    ∃ das k kas kks1 kks2 dv1 dv2, kvStrParts a = some (das, k, kas, kks1, dv1) ∧ kvStrParts b = some (das, k, kas, kks2, dv2)
      ∧ HintRelL kks1 kks2 ∧ HintRel dv1 dv2 := by
  unfold kvStrParts
  split
  · obtain ⟨_, _, _ | ⟨⟨_, _, hk⟩, _ | ⟨hv, ⟨⟩ | _⟩⟩⟩ := h
    exact .inr ⟨_, _, _, _, _, _, _, rfl, rfl, hk, hv⟩
  · rename_i hne
    split
    · obtain ⟨_, _, _ | ⟨⟨_, _, _⟩, _ | ⟨_, ⟨⟩ | _⟩⟩⟩ := h
      exact (hne _ _ _ _ _ rfl).elim
    · exact .inl ⟨rfl, rfl⟩

theorem strArgOf_rel {x y : Node} (h : HintRel x y) : strArgOf x = strArgOf y := by
  unfold strArgOf
  split
  · obtain ⟨_, _, _ | ⟨⟨_, _, _⟩, ⟨⟩ | _⟩⟩ := h
    rfl
  · rename_i hne
    split
    · obtain ⟨_, _, _ | ⟨⟨_, _, _⟩, ⟨⟩ | _⟩⟩ := h; exact (hne _ _ _ _ rfl).elim
    · rfl

theorem parseModifiers_rel {a b : List Node} (h : HintRelL a b) : parseModifiers a = parseModifiers b := by
  rw [parseModifiers_eq, parseModifiers_eq]
  congr 1
  induction h using HintRelL.induct with
  | nil => rfl
  | cons hx _ ih => rw [List.filterMap_cons, List.filterMap_cons, strArgOf_rel hx, ih]

theorem isConstant_congr_all :
    (∀ a b, HintRel a b → isConstant a = isConstant b) ∧
    (∀ a b, HintRelL a b → allConstProps a = allConstProps b) ∧
    (∀ a b, HintRelL a b → allConstElems a = allConstElems b) := by
  refine isConstant.mutual_induct
    (motive_1 := fun a => ∀ b, HintRel a b → isConstant a = isConstant b)
    (motive_2 := fun a => ∀ b, HintRelL a b → allConstProps a = allConstProps b)
    (motive_3 := fun a => ∀ b, HintRelL a b → allConstElems a = allConstElems b)
    ?ident ?array ?object ?str ?num ?bool ?null ?bigint ?regex ?jsxText ?other
    ?pnil ?pkv ?pident ?pother ?enil ?earg ?eother
  case ident | str | num | bool | null | bigint | regex | jsxText =>
    intros; rename_i h; obtain ⟨_, _, _⟩ := h; simp only [isConstant]
  case array =>
    intro _ _ elems ih b h
    obtain ⟨_, _, _ | ⟨⟨_, _, hl⟩, ⟨⟩ | _⟩⟩ := h
    simpa only [isConstant] using ih _ hl
  case object =>
    intro _ _ props ih b h
    obtain ⟨_, _, _ | ⟨⟨_, _, hl⟩, ⟨⟩ | _⟩⟩ := h
    simpa only [isConstant] using ih _ hl
  case other =>
    intro t h1 h2 h3 h4 h5 h6 h7 h8 h9 h10 b h
    -- the catch-all equation has the ten non-matches as premises
    have ht : isConstant t = false := by rw [isConstant] <;> assumption
    rw [ht]
    unfold isConstant
    split
    · obtain ⟨_, _, _⟩ := h; exact (h1 _ _ _ _ rfl).elim
    · obtain ⟨_, _, _ | ⟨⟨_, _, _⟩, ⟨⟩ | _⟩⟩ := h; exact (h2 _ _ _ rfl).elim
    · obtain ⟨_, _, _ | ⟨⟨_, _, _⟩, ⟨⟩ | _⟩⟩ := h; exact (h3 _ _ _ rfl).elim
    · obtain ⟨_, _, _⟩ := h; exact (h4 _ _ rfl).elim
    · obtain ⟨_, _, _⟩ := h; exact (h5 _ _ rfl).elim
    · obtain ⟨_, _, _⟩ := h; exact (h6 _ _ rfl).elim
    · obtain ⟨_, _, _⟩ := h; exact (h7 _ _ rfl).elim
    · obtain ⟨_, _, _⟩ := h; exact (h8 _ _ rfl).elim
    · obtain ⟨_, _, _⟩ := h; exact (h9 _ _ rfl).elim
    · obtain ⟨_, _, _⟩ := h; exact (h10 _ _ rfl).elim
    · rfl
  case pnil => intro b h; obtain ⟨⟩ | _ := h; rfl
  case enil => intro b h; obtain ⟨⟩ | _ := h; rfl
  case pkv =>
    intro _ k v rest ihk ihv ihr b h
    obtain _ | ⟨hkv, hr⟩ := h
    obtain ⟨_, _, _ | ⟨hk, _ | ⟨hv, ⟨⟩ | _⟩⟩⟩ := hkv
    rw [allConstProps_kv, allConstProps_kv, ihv _ hv, ihr _ hr]
    congr 2
    unfold constKey
    split
    · obtain ⟨_, _, _ | ⟨he, ⟨⟩ | _⟩⟩ := hk
      exact ihk _ he
    · rename_i hne
      split
      · obtain ⟨_, _, _ | ⟨_, ⟨⟩ | _⟩⟩ := hk
        exact (hne _ _ rfl).elim
      · rfl
  case pident =>
    intro _ _ _ _ rest ihr b h
    obtain _ | ⟨⟨_, _, _⟩, hr⟩ := h
    simp only [allConstProps, ihr _ hr]
  case earg =>
    intro _ e rest ihe ihr b h
    obtain _ | ⟨⟨_, _, _ | ⟨he, ⟨⟩ | _⟩⟩, hr⟩ := h
    simp only [allConstElems, ihe _ he, ihr _ hr]
  case pother =>
    intro head tail h1 h2 b h
    obtain _ | ⟨hx, hr⟩ := h
    have hf : allConstProps (head :: tail) = false := by rw [allConstProps] <;> assumption
    rw [hf]
    unfold allConstProps
    split
    · rename_i heq; cases heq
    · rename_i heq; cases heq
      obtain ⟨_, _, _ | ⟨_, _ | ⟨_, ⟨⟩ | _⟩⟩⟩ := hx; exact (h1 _ _ _ rfl).elim
    · rename_i heq; cases heq
      obtain ⟨_, _, _⟩ := hx; exact (h2 _ _ _ _ rfl).elim
    · rfl
  case eother =>
    intro head tail h1 b h
    obtain _ | ⟨hx, hr⟩ := h
    have hf : allConstElems (head :: tail) = false := by rw [allConstElems]; assumption
    rw [hf]
    unfold allConstElems
    split
    · rename_i heq; cases heq
    · rename_i heq; cases heq
      obtain ⟨_, _, _ | ⟨_, ⟨⟩ | _⟩⟩ := hx; exact (h1 _ _ rfl).elim
    · rfl

/-- (bound unused: see `isConstant_congr_all`) -/
theorem isConstant_rel_aux (n : Nat) :
    (∀ a b, sizeOf a ≤ n → HintRel a b → isConstant a = isConstant b) ∧
    (∀ a b, sizeOf a ≤ n → HintRelL a b → allConstElems a = allConstElems b) ∧
    (∀ a b, sizeOf a ≤ n → HintRelL a b → allConstProps a = allConstProps b) :=
  ⟨fun a b _ => isConstant_congr_all.1 a b, fun a b _ => isConstant_congr_all.2.2 a b, fun a b _ => isConstant_congr_all.2.1 a b⟩

theorem isConstant_rel {a b : Node} (h : HintRel a b) : isConstant a = isConstant b := isConstant_congr_all.1 a b h

theorem isAttrValueConstant_rel {a b : Node} (h : HintRel a b) : isAttrValueConstant a = isAttrValueConstant b := by
  unfold isAttrValueConstant
  split
  · obtain ⟨_, _, _⟩ := h; rfl
  · obtain ⟨_, _, _ | ⟨he, ⟨⟩ | _⟩⟩ := h
    dsimp only
    split
    · obtain ⟨_, _, _⟩ := he; rfl
    · rename_i hne
      split
      · obtain ⟨_, _, _⟩ := he; exact (hne _ _ rfl).elim
      · exact isConstant_rel he
  · rename_i h1 h2
    split
    · obtain ⟨_, _, _⟩ := h; exact (h1 _ _ rfl).elim
    · obtain ⟨_, _, _ | ⟨_, ⟨⟩ | _⟩⟩ := h; exact (h2 _ _ rfl).elim
    · rfl

end VueJsx
