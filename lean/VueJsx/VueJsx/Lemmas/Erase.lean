/-
  Erase: a hint-erasing FUNCTION on output trees (`eraseH isF`, with `isFactory pragma` the `isF` meant) and its basic algebra.
  C12 is not stated with it and no other module uses it: "erase (output with `optimize` on) = output with it off" is false
  when the user writes a `_: 1` entry in a `v-slots` literal without children (the entry stands in both outputs, and erasing
  takes it out of the first), whereas the relation `HintRel` needs no hypothesis that excludes this.  No theorem relates
  `eraseH` to `HintRel` or to the erasure the oracle applies (`eraseHints`, Sem.lean).
-/
import VueJsx.Sem

namespace VueJsx

/-- the vnode factory callee: the configured pragma identifier (`quote_ident!`, empty context), or — without a
    pragma — the generated local name of the `createVNode` import -/
def isFactory (pragma : Option String) (c : Node) : Bool :=
  match pragma with
  | some p => (match c with | .mk .ident [n, "e"] [] => n == p | _ => false)
  | none => (match c with | .mk .ident [n, b] [] => n == "_createVNode" && isGenBind b | _ => false)

def eraseRule (isF : Node → Bool) (n : Node) : Node :=
  match n with
  | .mk .call ("syn" :: as) [callee, .mk .list las (a :: b :: .mk .arg aas [kids] :: _), ta] =>
    if isF callee then .mk .call ("syn" :: as) [callee, .mk .list las [a, b, .mk .arg aas [eraseSlotHint kids]], ta] else n
  | n => n

def eraseH (isF : Node → Bool) : Node → Node := post (eraseRule isF)
def eraseHL (isF : Node → Bool) : List Node → List Node := postL (eraseRule isF)

variable {isF : Node → Bool}

theorem eraseRule_kind_atoms (n : Node) : (eraseRule isF n).kind = n.kind ∧ (eraseRule isF n).atoms = n.atoms := by
  unfold eraseRule
  split
  · split <;> simp [Node.kind, Node.atoms]
  · simp

theorem eraseRule_noncall (k : K) (as : List String) (ks : List Node) (h : k ≠ .call) :
    eraseRule isF (.mk k as ks) = .mk k as ks := by
  unfold eraseRule
  split
  · rename_i heq; cases heq; exact absurd rfl h
  · rfl

theorem eraseH_mk (k : K) (as : List String) (ks : List Node) :
    eraseH isF (.mk k as ks) = eraseRule isF (.mk k as (eraseHL isF ks)) := by
  simp [eraseH, eraseHL, post]

@[simp] theorem eraseHL_nil : eraseHL isF [] = [] := by simp [eraseHL, postL]
@[simp] theorem eraseHL_cons (x : Node) (xs : List Node) : eraseHL isF (x :: xs) = eraseH isF x :: eraseHL isF xs := by
  simp [eraseHL, eraseH, postL]

theorem eraseHL_eq_map (xs : List Node) : eraseHL isF xs = xs.map (eraseH isF) := by
  induction xs with
  | nil => simp
  | cons x xs ih => simp [ih]

@[simp] theorem eraseHL_append (xs ys : List Node) : eraseHL isF (xs ++ ys) = eraseHL isF xs ++ eraseHL isF ys := by
  simp [eraseHL_eq_map]

@[simp] theorem eraseHL_length (xs : List Node) : (eraseHL isF xs).length = xs.length := by
  simp [eraseHL_eq_map]

theorem eraseH_noncall (k : K) (as : List String) (ks : List Node) (h : k ≠ .call) :
    eraseH isF (.mk k as ks) = .mk k as (eraseHL isF ks) := by
  rw [eraseH_mk, eraseRule_noncall _ _ _ h]

theorem eraseH_kind (n : Node) : (eraseH isF n).kind = n.kind := by
  cases n with | mk k as ks => rw [eraseH_mk]; exact (eraseRule_kind_atoms _).1

theorem eraseH_atoms (n : Node) : (eraseH isF n).atoms = n.atoms := by
  cases n with | mk k as ks => rw [eraseH_mk]; exact (eraseRule_kind_atoms _).2

theorem eraseH_usr_call (as : List String) (ks : List Node) (h : as.head? ≠ some "syn") :
    eraseH isF (.mk .call as ks) = .mk .call as (eraseHL isF ks) := by
  rw [eraseH_mk]
  generalize eraseHL isF ks = ks'
  unfold eraseRule
  split
  · rename_i heq; injection heq with _ h2 _; subst h2; simp at h
  · rfl

theorem eraseH_shape (n : Node) : ∃ ks', eraseH isF n = .mk n.kind n.atoms ks' ∧ (n.kind ≠ .call → ks' = eraseHL isF n.kids) := by
  refine ⟨(eraseH isF n).kids, ?_, fun h => ?_⟩
  · rw [← eraseH_kind (isF := isF) n, ← eraseH_atoms (isF := isF) n]
    cases eraseH isF n; rfl
  · obtain ⟨k, as, ks⟩ := n
    rw [eraseH_noncall k as ks h]; rfl

end VueJsx
