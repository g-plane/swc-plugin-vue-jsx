/-
  The element lowering read through views of its input (`elementParts`, `childView`, ...), its arms as functions of
  their own, the equations that say so, and induction along it (`trAttrs_induct`, `lowering_induct`).
-/
import VueJsx.Element
import VueJsx.Lemmas.AttrsEqs

namespace VueJsx
open Text

def memberObj (obj : Node) : Node :=
  match obj with
  | .mk .ident ("this" :: _) _ => .mk (.other "ThisExpression") [] []
  | .mk .ident as _ => .mk .ident as []
  | m => jsxMemberToExpr m

def memberProp (prop : Node) : Node :=
  match prop with
  | .mk .ident (name :: _) _ => if isValidPropIdent name then prop else nComputed (nStr name)
  | p => p

theorem memberObj_member (as : List String) (ks : List Node) :
    memberObj (.mk .jsxMember as ks) = jsxMemberToExpr (.mk .jsxMember as ks) := rfl

theorem jsxMemberToExpr_pair (as : List String) (obj prop : Node) :
    jsxMemberToExpr (.mk .jsxMember as [obj, prop]) = .mk .member [] [memberObj obj, memberProp prop] := by
  unfold jsxMemberToExpr
  rfl

theorem jsxMemberToExpr_other (k : K) (as : List String) (ks : List Node) (h : k ≠ .jsxMember) :
    jsxMemberToExpr (.mk k as ks) = .mk k as ks := by
  unfold jsxMemberToExpr
  split
  · rename_i heq; injection heq with h1; exact absurd h1 h
  · rfl

theorem jsxMemberToExpr_badlen (as : List String) (ks : List Node) (h : ks.length ≠ 2) :
    jsxMemberToExpr (.mk .jsxMember as ks) = .mk .jsxMember as ks := by
  unfold jsxMemberToExpr
  split
  · rename_i heq; injection heq with _ _ h3; subst h3; simp at h
  · rfl

def iifeStep (left : Node) (acc : List Node × St) (elem : Node) : List Node × St :=
  let (out, st) := acc
  match elem with
  | .mk .arg _ [.mk .ident (n :: b :: r) ks] =>
    if n == identName left && b == identBind left then
      let (name, st) := st.fresh ("_" ++ n)
      let init := nCall (nFnExpr [] [nReturn (.mk .ident (n :: b :: r) ks)]) []
      (out ++ [nArg name], { st with injectingConsts := st.injectingConsts ++ [nDeclarator name init] })
    else (out ++ [elem], st)
  | e => (out ++ [e], st)

theorem buildIife_eq (elems : List Node) (st : St) :
    buildIife elems st =
      (match st.assignmentLeft with
       | none => (elems, st)
       | some left => elems.foldl (iifeStep left) ([], { st with assignmentLeft := none })) := by
  unfold buildIife
  cases st.assignmentLeft <;> rfl

theorem iifeStep_inv (P : St → Prop) (hfresh : ∀ s n, P s → P (s.fresh n).2)
    (hconst : ∀ s d, P s → P { s with injectingConsts := s.injectingConsts ++ [d] })
    (left : Node) (acc : List Node × St) (e : Node) (h : P acc.2) : P (iifeStep left acc e).2 := by
  simp only [iifeStep] at h ⊢
  split
  · split
    · exact hconst _ _ (hfresh _ _ h)
    · exact h
  · exact h

/-- `buildIife` forgets the remembered assignment target, and its capture fold only draws fresh names and appends pending
    declarations -/
theorem buildIife_inv (P : St → Prop) (hfresh : ∀ s n, P s → P (s.fresh n).2)
    (hconst : ∀ s d, P s → P { s with injectingConsts := s.injectingConsts ++ [d] }) (elems : List Node) (st : St)
    (h0 : st.assignmentLeft = none → P st) (h1 : P { st with assignmentLeft := none }) : P (buildIife elems st).2 := by
  rw [buildIife_eq]
  split
  · exact h0 ‹_›
  · exact List.foldlRecOn elems _ (motive := fun acc : List Node × St => P acc.2) h1
      fun acc h e _ => iifeStep_inv P hfresh hconst _ acc e h

theorem slotProps_some (e : Node) : slotProps (some e) = spreadEntries e := by
  unfold slotProps spreadEntries
  split
  next heq => cases heq; rfl
  next hne heq => cases heq; rw [objLitParts_none fun _ _ _ h => hne _ _ _ (by rw [h])]
  next heq => cases heq

def wrapBase (elems : List Node) (slots : Option Node) : List Node :=
  [nKV (nIdentName "default") (nArrow [] (nArray elems))] ++ slotProps slots

def hintEntry (flag : Nat) : Node := nKV (nIdentName "_") (nNum flag)

theorem wrapChildren_eq (o : Opts) (elems : List Node) (flag : Nat) (slots : Option Node) :
    wrapChildren o elems flag slots = nObject (if o.optimize then wrapBase elems slots ++ [hintEntry flag] else wrapBase elems slots) := by
  unfold wrapChildren wrapBase hintEntry
  rfl

theorem wrapChildren_on {o : Opts} (h : o.optimize = true) (elems : List Node) (flag : Nat) (slots : Option Node) :
    wrapChildren o elems flag slots = nObject (wrapBase elems slots ++ [hintEntry flag]) := by
  rw [wrapChildren_eq, if_pos h]

theorem wrapChildren_off {o : Opts} (h : o.optimize = false) (elems : List Node) (flag : Nat) (slots : Option Node) :
    wrapChildren o elems flag slots = nObject (wrapBase elems slots) := by
  rw [wrapChildren_eq, if_neg (by simp [h])]

def slotHelperOf (st : St) : Node × St :=
  match st.slotHelper with
  | some h => (h, st)
  | none => let (h, st) := st.fresh "_isSlot"; (h, { st with slotHelper := some h })

def finishIdent (o : Opts) (e : Node) (elems : List Node) (isComp : Bool) (slots : Option Node) (slotFlag : Nat) (st : St) : Node × St :=
  if isComp then
    let iife := buildIife elems st
    if o.enableObjectSlots then
      let h := slotHelperOf iife.2
      (nCond (nCall h.1 [nArg e]) e (wrapChildren o iife.1 slotFlag slots), h.2)
    else (wrapChildren o iife.1 slotFlag slots, iife.2)
  else (nArray elems, st)

def finishCall (o : Opts) (e : Node) (elems : List Node) (isComp : Bool) (slots : Option Node) (slotFlag : Nat) (st : St) : Node × St :=
  if isComp then
    if o.enableObjectSlots then
      let slot := genSlotIdent st
      let h := slotHelperOf slot.2
      let iife := buildIife [nArg slot.1] h.2
      (nCond (nCall h.1 [nArg (nAssignParen slot.1 e)]) slot.1 (wrapChildren o iife.1 slotFlag slots), iife.2)
    else (wrapChildren o elems slotFlag slots, st)
  else (nArray elems, st)

/-- `usrCall`: a call the user wrote, not one the lowering made -/
inductive KidsView where
  | none | ident (e : Node) | usrCall (e : Node) | fn (e : Node) | object (props : List Node) | other

def kidsView : List Node → KidsView
  | [] => .none
  | [.mk .arg _ [e]] =>
    match e with
    | .mk .ident _ _ => .ident e
    | .mk .call (syn :: _) _ => if syn != "syn" then .usrCall e else .other
    | .mk .fnExpr _ _ => .fn e
    | .mk .arrow _ _ => .fn e
    | .mk .object _ [.mk .list _ props] => .object props
    | _ => .other
  | _ => .other

theorem finishChildren_eq (o : Opts) (elems : List Node) (c : Bool) (slots : Option Node) (flag : Nat) (st : St) :
    finishChildren o elems c slots flag st =
      (match kidsView elems with
       | .none => ((match slots with | some s => s | none => nNull), st)
       | .ident e => finishIdent o e elems c slots flag st
       | .usrCall e => finishCall o e elems c slots flag st
       | .fn e => (nObject (nKV (nIdentName "default") e :: slotProps slots), st)
       | .object props =>
         (nObject (if o.optimize then (props ++ slotProps slots) ++ [hintEntry flag] else props ++ slotProps slots), st)
       | .other => if c then (wrapChildren o elems flag slots, st) else (nArray elems, st)) := by
  fun_cases kidsView elems
  case case3 hsyn =>
    unfold finishChildren
    dsimp only
    rw [hsyn]
    cases c <;> rfl
  case case4 hsyn =>
    unfold finishChildren
    dsimp only
    rw [Bool.not_eq_true] at hsyn
    rw [hsyn]
    rfl
  case case8 h1 h2 h3 h4 h5 =>   -- one argument, no listed kind
    unfold finishChildren
    dsimp only
    split
    · exact (h1 _ _ rfl).elim
    · exact (h2 _ _ _ rfl).elim
    · exact (h3 _ _ rfl).elim
    · exact (h4 _ _ rfl).elim
    · exact (h5 _ _ _ rfl).elim
    · rfl
  case case9 h1 h2 =>   -- not one argument
    unfold finishChildren
    split
    · exact (h1 rfl).elim
    · exact (h2 _ _ rfl).elim
    · rfl
  all_goals rfl

def typeAttrStep (a : Node) : Option Node :=
  match a with
  | .mk .jsxAttr _ [.mk .ident (n :: _) _, v] => if n == "type" && !isNone v then some v else none
  | _ => none

theorem typeAttrOf_eq (attrs : List Node) : typeAttrOf attrs = attrs.findSome? typeAttrStep := rfl

def tagIdentOf (tagN : Node) : Option String :=
  match tagN with
  | .mk .ident (n :: _) _ => some n
  | _ => none

def modelByType (v : Option Node) (st : St) : Node × St :=
  match v with
  | some (.mk .str (s :: _) _) =>
    if s == "checkbox" then st.importFromVue "vModelCheckbox"
    else if s == "radio" then st.importFromVue "vModelRadio"
    else st.importFromVue "vModelText"
  | none => st.importFromVue "vModelText"
  | some _ => st.importFromVue "vModelDynamic"

theorem resolveDirective_eq (name : String) (tagN : Node) (attrs : List Node) (st : St) :
    resolveDirective name tagN attrs st =
      (if name == "show" then st.importFromVue "vShow"
       else if name == "model" then
         (if tagIdentOf tagN == some "select" then st.importFromVue "vModelSelect"
          else if tagIdentOf tagN == some "textarea" then st.importFromVue "vModelText"
          else modelByType (typeAttrOf attrs) st)
       else (nCall (st.importFromVue "resolveDirective").1 [nArg (nStr name)], (st.importFromVue "resolveDirective").2)) := by
  unfold resolveDirective modelByType tagIdentOf
  rfl

theorem resolveDirective_cases (name : String) (tagN : Node) (attrs : List Node) (st : St) :
    (∃ item, resolveDirective name tagN attrs st = st.importFromVue item) ∨
    resolveDirective name tagN attrs st =
      (nCall (st.importFromVue "resolveDirective").1 [nArg (nStr name)], (st.importFromVue "resolveDirective").2) := by
  let P : Node × St → Prop := fun r => ∃ item, r = st.importFromVue item
  have imp : ∀ item, P (st.importFromVue item) := fun item => ⟨item, rfl⟩
  have byType : P (modelByType (typeAttrOf attrs) st) := by
    unfold modelByType
    split
    · exact ite_cases (P := P) (imp _) (ite_cases (P := P) (imp _) (imp _))
    · exact imp _
    · exact imp _
  rw [resolveDirective_eq]
  refine ite_cases (P := fun r => P r ∨ r = _) ?vShow (ite_cases (P := fun r => P r ∨ r = _) ?vModel ?custom)
  case vShow => exact .inl (imp _)
  case vModel => exact .inl (ite_cases (P := P) (imp _) (ite_cases (P := P) (imp _) byType))
  case custom => exact .inr rfl

def optArg (x : Option Node) : List Node := match x with | some a => [nArg a] | none => []

theorem dirEntries_cons (tagN : Node) (attrs : List Node) (name : String) (arg mods : Option Node) (value : Node)
    (rest : List (String × Option Node × Option Node × Node)) (st : St) :
    dirEntries tagN attrs ((name, arg, mods, value) :: rest) st =
      (let d := resolveDirective name tagN attrs st
       let more := dirEntries tagN attrs rest d.2
       (nArg (nArray ([nArg d.1, nArg value] ++ optArg arg ++ optArg mods)) :: more.1, more.2)) := rfl

def elementParts : Node → Option (Node × List Node × List Node)
  | .mk .jsxElement _ [.mk .jsxOpening _ [nameN, .mk .list _ attrs, _], .mk .list _ children, _] => some (nameN, attrs, children)
  | _ => none

def fragmentParts : Node → Option (List Node)
  | .mk .jsxFragment _ [_, .mk .list _ children, _] => some children
  | _ => none

theorem elementParts_none {n : Node} (h : ∀ as oas nameN las attrs ta cas children cl,
    n = .mk .jsxElement as [.mk .jsxOpening oas [nameN, .mk .list las attrs, ta], .mk .list cas children, cl] → False) :
    elementParts n = none :=
  elementParts.eq_2 _ h

theorem fragmentParts_none {n : Node} (h : ∀ as op cas children cl, n = .mk .jsxFragment as [op, .mk .list cas children, cl] → False) :
    fragmentParts n = none :=
  fragmentParts.eq_2 _ h

theorem elementParts_some {n nameN : Node} {attrs children : List Node} (h : elementParts n = some (nameN, attrs, children)) :
    ∃ as oas las ta cas cl, n = .mk .jsxElement as [.mk .jsxOpening oas [nameN, .mk .list las attrs, ta], .mk .list cas children, cl] := by
  unfold elementParts at h
  split at h
  · cases h; exact ⟨_, _, _, _, _, _, rfl⟩
  · cases h

theorem fragmentParts_some {n : Node} {children : List Node} (h : fragmentParts n = some children) :
    ∃ as op cas cl, n = .mk .jsxFragment as [op, .mk .list cas children, cl] := by
  unfold fragmentParts at h
  split at h
  · cases h; exact ⟨_, _, _, _, rfl⟩
  · cases h

def hintArgs (o : Opts) (args : List Node) (ar : AttrsResult) : List Node :=
  if o.optimize then
    let args := if ar.patchFlags != 0 then args ++ [nArg (nNum ar.patchFlags)] else args
    match ar.dynamicProps with
    | some dp => if !dp.isEmpty then args ++ [nArg (nArray (dp.map fun p => nArg (nStr p)))] else args
    | none => args
  else args

def elementCore (o : Opts) (env : Env) (nameN : Node) (attrs children : List Node) (st : St) : Node × St :=
  let isComp := isComponent env nameN
  let ar := transformAttrs o env attrs isComp (pushFlag o st)
  let tag := transformTag env nameN ar.2
  let elems := trChildList o env children tag.2
  let flag := popFlag o elems.2
  let kids := finishChildren o elems.1 isComp ar.1.slots flag.1 flag.2
  let pragma := getPragma o kids.2
  let vnode := nCall pragma.1 (hintArgs o [nArg tag.1, nArg ar.1.attrs, nArg kids.1] ar.1)
  if ar.1.directives.isEmpty then (vnode, pragma.2)
  else
    let wd := pragma.2.importFromVue "withDirectives"
    let entries := dirEntries nameN attrs ar.1.directives wd.2
    (nCall wd.1 [nArg vnode, nArg (nArray entries.1)], entries.2)

theorem elementCore_kind (o : Opts) (env : Env) (nameN : Node) (attrs children : List Node) (st : St) :
    (elementCore o env nameN attrs children st).1.kind = .call := by
  unfold elementCore
  exact ite_cases (P := fun r : Node × St => r.1.kind = .call) rfl rfl

theorem pushFlag_frame (o : Opts) (s : St) : ∃ x, pushFlag o s = { s with slotFlagStack := x } := by
  unfold pushFlag
  split
  · exact ⟨_, rfl⟩
  · exact ⟨s.slotFlagStack, rfl⟩

theorem popFlag_frame (o : Opts) (s : St) : ∃ x, (popFlag o s).2 = { s with slotFlagStack := x } := by
  unfold popFlag
  split
  · split
    · exact ⟨s.slotFlagStack, rfl⟩
    · exact ⟨_, rfl⟩
  · exact ⟨s.slotFlagStack, rfl⟩

theorem trElement_eq (o : Opts) (env : Env) (n : Node) (st : St) :
    trElement o env n st =
      (match elementParts n with
       | some (nameN, attrs, children) => elementCore o env nameN attrs children st
       | none => (.mk .ill [] [n], st.panic "ill-formed JSX element")) := by
  unfold trElement
  split
  · simp only [elementParts]; rfl
  · rw [elementParts_none ‹_›]

def fragmentCore (o : Opts) (env : Env) (children : List Node) (st : St) : Node × St :=
  let pragma := getPragma o (pushFlag o st)
  let frag := pragma.2.importFromVue FRAGMENT
  let elems := trChildList o env children frag.2
  let flag := popFlag o elems.2
  let kids := finishChildren o elems.1 false none flag.1 flag.2
  (nCall pragma.1 [nArg frag.1, nArg nNull, nArg kids.1], kids.2)

theorem trFragment_eq (o : Opts) (env : Env) (n : Node) (st : St) :
    trFragment o env n st =
      (match fragmentParts n with
       | some children => fragmentCore o env children st
       | none => (.mk .ill [] [n], st.panic "ill-formed JSX fragment")) := by
  unfold trFragment
  split
  · simp only [fragmentParts]; rfl
  · rw [fragmentParts_none ‹_›]

/-- the lowering of an element / fragment used directly as a plain attribute's value (first half of a `trAttrs` step) -/
def lowerAttr (o : Opts) (env : Env) (a : Node) (st : St) : Option Node × St :=
  match attrParts a with
  | some (nameN, v) =>
    if v.kind = .jsxElement then
      (if isDirectiveAttrName (attrNameOf nameN) then (none, st) else let (e, st) := trElement o env v st; (some e, st))
    else if v.kind = .jsxFragment then
      (if isDirectiveAttrName (attrNameOf nameN) then (none, st) else let (e, st) := trFragment o env v st; (some e, st))
    else (none, st)
  | none => (none, st)

theorem lowerAttr_plain {o : Opts} {env : Env} {as : List String} {nameN v : Node} {st : St}
    (h1 : v.kind ≠ .jsxElement) (h2 : v.kind ≠ .jsxFragment) : lowerAttr o env (.mk .jsxAttr as [nameN, v]) st = (none, st) := by
  unfold lowerAttr
  rw [attrParts_attr]
  exact (if_neg h1).trans (if_neg h2)

private theorem lowerAttr_eq (o : Opts) (env : Env) (a : Node) (st : St) :
    lowerAttr o env a st =
    (match a with
     | .mk .jsxAttr _ [nameN, .mk .jsxElement eas eks] =>
       if isDirectiveAttrName (attrNameOf nameN) then (none, st)
       else let (e, st) := trElement o env (.mk .jsxElement eas eks) st; (some e, st)
     | .mk .jsxAttr _ [nameN, .mk .jsxFragment eas eks] =>
       if isDirectiveAttrName (attrNameOf nameN) then (none, st)
       else let (e, st) := trFragment o env (.mk .jsxFragment eas eks) st; (some e, st)
     | _ => (none, st)) := by
  split
  · rfl
  · rfl
  · next h1 h2 =>
    cases hp : attrParts a with
    | none => unfold lowerAttr; rw [hp]
    | some p =>
      obtain ⟨as, rfl⟩ := attrParts_some hp
      exact lowerAttr_plain (Node.kind_ne_of fun _ _ e => h1 _ _ _ _ (by rw [e])) (Node.kind_ne_of fun _ _ e => h2 _ _ _ _ (by rw [e]))

theorem lowerAttr_cases (o : Opts) (env : Env) (a : Node) (st : St) :
    (lowerAttr o env a st = (none, st) ∧ ∀ nameN v, attrParts a = some (nameN, v) → ¬isDirectiveAttrName (attrNameOf nameN) = true →
        v.kind ≠ .jsxElement ∧ v.kind ≠ .jsxFragment) ∨
    ∃ nameN v, attrParts a = some (nameN, v) ∧ ¬isDirectiveAttrName (attrNameOf nameN) = true ∧
      ((v.kind = .jsxElement ∧ lowerAttr o env a st = (some (trElement o env v st).1, (trElement o env v st).2)) ∨
       (v.kind = .jsxFragment ∧ lowerAttr o env a st = (some (trFragment o env v st).1, (trFragment o env v st).2))) := by
  unfold lowerAttr
  cases hp : attrParts a with
  | none => exact .inl ⟨rfl, fun _ _ h => by cases h⟩
  | some p =>
    obtain ⟨nameN, v⟩ := p
    by_cases hd : isDirectiveAttrName (attrNameOf nameN) = true
    · refine .inl ⟨?_, fun n' v' h hnd => ?_⟩
      · simp only [hd, if_true, ite_self]
      · cases h; exact absurd hd hnd
    · by_cases h1 : v.kind = .jsxElement
      · exact .inr ⟨nameN, v, rfl, hd, .inl ⟨h1, by simp [h1, hd]⟩⟩
      · by_cases h2 : v.kind = .jsxFragment
        · exact .inr ⟨nameN, v, rfl, hd, .inr ⟨h2, by simp [h2, hd]⟩⟩
        · exact .inl ⟨by simp only [h1, h2, if_false], fun n' v' h _ => by cases h; exact ⟨h1, h2⟩⟩

theorem trAttrs_cons (o : Opts) (env : Env) (c : Bool) (a : Node) (rest : List Node) (acc : AttrAcc) (st : St) :
    trAttrs o env c (a :: rest) acc st =
      (let low := lowerAttr o env a st
       let step := attrStep o c a low.1 acc low.2
       trAttrs o env c rest step.1 step.2) := by
  conv => lhs; unfold trAttrs
  rw [lowerAttr_eq]
  rfl

theorem trAttrs_nil (o : Opts) (env : Env) (c : Bool) (acc : AttrAcc) (st : St) : trAttrs o env c [] acc st = (acc, st) := by
  unfold trAttrs; rfl

theorem transformAttrs_nil (o : Opts) (env : Env) (c : Bool) (st : St) :
    transformAttrs o env [] c st = ({ attrs := nNull, patchFlags := 0, dynamicProps := none, slots := none, directives := [] }, st) := by
  unfold transformAttrs; rfl

theorem transformAttrs_cons (o : Opts) (env : Env) (a : Node) (attrs : List Node) (c : Bool) (st : St) :
    transformAttrs o env (a :: attrs) c st =
      (let acc := trAttrs o env c (a :: attrs) {} st
       let expr := assembleProps o acc.1.props acc.1.mergeArgs acc.2
       ({ attrs := expr.1, patchFlags := patchFlagsOf acc.1, dynamicProps := some acc.1.dynamicProps,
          slots := acc.1.slots, directives := acc.1.directives }, expr.2)) := by
  unfold transformAttrs; rfl

theorem trAttrs_append (o : Opts) (env : Env) (c : Bool) : ∀ (pre post : List Node) (acc : AttrAcc) (st : St),
    trAttrs o env c (pre ++ post) acc st
      = trAttrs o env c post (trAttrs o env c pre acc st).1 (trAttrs o env c pre acc st).2
  | [], post, acc, st => by rw [trAttrs_nil]; rfl
  | a :: pre, post, acc, st => by
    simp only [List.cons_append]
    rw [trAttrs_cons, trAttrs_cons]
    exact trAttrs_append o env c pre post _ _

/-- Induction over the fold, for facts about the accumulator: the one after the fold is reached from the one before it
    by one `attrStep` per attribute, in order, each given the value lowered in SOME state `st₀` and run in SOME state
    `st`: a fact about the accumulator alone does not need to know which. -/
theorem trAttrs_induct (o : Opts) (env : Env) (c : Bool) {motive : List Node → AttrAcc → AttrAcc → Prop}
    (nil : ∀ acc, motive [] acc acc)
    (cons : ∀ a rest st₀ acc st r, motive rest (attrStep o c a (lowerAttr o env a st₀).1 acc st).1 r → motive (a :: rest) acc r) :
    ∀ (attrs : List Node) (acc : AttrAcc) (st : St), motive attrs acc (trAttrs o env c attrs acc st).1
  | [], acc, st => by rw [trAttrs_nil]; exact nil acc
  | a :: rest, acc, st => by
    rw [trAttrs_cons]
    exact cons a rest st acc _ _ (trAttrs_induct o env c nil cons rest _ _)

theorem trAttrs_collects (o : Opts) (env : Env) (c : Bool) {β : Type} (proj : AttrAcc → List β) (g : Node → Option β)
    (attrs : List Node) (acc : AttrAcc) (st : St)
    (hstep : ∀ a ∈ attrs, ∀ st₀ acc st, proj (attrStep o c a (lowerAttr o env a st₀).1 acc st).1 = proj acc ++ (g a).toList) :
    proj (trAttrs o env c attrs acc st).1 = proj acc ++ attrs.filterMap g := by
  induction attrs generalizing acc st with
  | nil => simp [trAttrs_nil]
  | cons a rest ih =>
    rw [trAttrs_cons, ih _ _ fun x hx => hstep x (List.mem_cons_of_mem _ hx), hstep a List.mem_cons_self]
    cases hg : g a <;> simp [hg]

theorem transformAttrs_directives (o : Opts) (env : Env) (attrs : List Node) (c : Bool) (st : St) :
    (transformAttrs o env attrs c st).1.directives = (trAttrs o env c attrs {} st).1.directives := by
  cases attrs with
  | nil => rw [trAttrs_nil, transformAttrs_nil]
  | cons a rest => rw [transformAttrs_cons]

inductive ChildView where
  | text (t : String) | empty | expr (e : Node) | spread (e : Node) | element | fragment | bad

def childView : Node → ChildView
  | .mk .jsxText (t :: _) _ => .text t
  | .mk .jsxExprContainer _ [e] =>
    match e with
    | .mk .jsxEmpty _ _ => .empty
    | e => .expr e
  | .mk .jsxSpreadChild _ [e] => .spread e
  | .mk .jsxElement _ _ => .element
  | .mk .jsxFragment _ _ => .fragment
  | _ => .bad

theorem childView_expr {e : Node} (cas : List String) (hne : ∀ a k, e ≠ .mk .jsxEmpty a k) :
    childView (.mk .jsxExprContainer cas [e]) = .expr e := by
  unfold childView
  dsimp only
  split
  · exact absurd rfl (hne _ _)
  · rfl

def fillIfBound (o : Opts) (e : Node) (st : St) : St :=
  if o.optimize && isIdent e && !isUnresolvedIdent e then stackFill st else st

theorem trChildList_nil (o : Opts) (env : Env) (st : St) : trChildList o env [] st = ([], st) := by
  unfold trChildList; rfl

theorem trChildList_cons (o : Opts) (env : Env) (c : Node) (rest : List Node) (st : St) :
    trChildList o env (c :: rest) st =
      (match childView c with
       | .text t =>
         let text := String.ofList (cleanText t.toList)
         if text.isEmpty then trChildList o env rest st
         else
           let ctv := st.importFromVue "createTextVNode"
           let more := trChildList o env rest ctv.2
           (nArg (nCall ctv.1 [nArg (nStr text)]) :: more.1, more.2)
       | .empty => trChildList o env rest st
       | .expr e =>
         let more := trChildList o env rest (fillIfBound o e st)
         (nArg e :: more.1, more.2)
       | .spread e =>
         let more := trChildList o env rest (fillIfBound o e st)
         (nSpreadArg e :: more.1, more.2)
       | .element =>
         let e := trElement o env c st
         let more := trChildList o env rest e.2
         (nArg e.1 :: more.1, more.2)
       | .fragment =>
         let e := trFragment o env c st
         let more := trChildList o env rest e.2
         (nArg e.1 :: more.1, more.2)
       | .bad =>
         let more := trChildList o env rest st
         (more.1, more.2.panic "ill-formed JSX child")) := by
  conv => lhs; unfold trChildList
  fun_cases childView c
  case case3 hne =>   -- `{e}`, `e` not empty
    dsimp only
    split
    · exact (hne _ _ rfl).elim
    · rfl
  case case7 h1 h2 h3 h4 h5 =>   -- no child kind
    split
    · exact (h1 _ _ _ rfl).elim
    · exact (h2 _ _ rfl).elim
    · exact (h3 _ _ rfl).elim
    · exact (h4 _ _ rfl).elim
    · exact (h5 _ _ rfl).elim
    · rfl
  all_goals rfl

theorem attrParts_size {a n v : Node} (h : attrParts a = some (n, v)) : sizeOf v < sizeOf a := by
  obtain ⟨as, rfl⟩ := attrParts_some h
  simp; omega

theorem elementParts_size {n nameN : Node} {attrs children : List Node} (h : elementParts n = some (nameN, attrs, children)) :
    sizeOf attrs < sizeOf n ∧ sizeOf children < sizeOf n := by
  obtain ⟨_, _, _, _, _, _, rfl⟩ := elementParts_some h
  simp; omega

theorem fragmentParts_size {n : Node} {children : List Node} (h : fragmentParts n = some children) : sizeOf children < sizeOf n := by
  obtain ⟨_, _, _, _, rfl⟩ := fragmentParts_some h
  simp; omega

/-- Induction over everything `trElement` / `trFragment` / `trAttrs` / `trChildList` recurse through: `acons` offers
    `pE v ∧ pF v` for the attribute's value (which of the two applies: `lowerAttr_cases`), `kcons` `pE c` and `pF c` for the
    child (which: `childView`).  (The functions' own induction principles cannot be derived: Lean 4.33 fails on the nested
    `match` of `trAttrs`.) -/
theorem lowering_induct {pE pF : Node → Prop} {pA pK : List Node → Prop}
    (elem : ∀ n nameN attrs children, elementParts n = some (nameN, attrs, children) → pA attrs → pK children → pE n)
    (notElem : ∀ n, elementParts n = none → pE n)
    (frag : ∀ n children, fragmentParts n = some children → pK children → pF n)
    (notFrag : ∀ n, fragmentParts n = none → pF n)
    (anil : pA [])
    (acons : ∀ a rest, (∀ nameN v, attrParts a = some (nameN, v) → pE v ∧ pF v) → pA rest → pA (a :: rest))
    (knil : pK [])
    (kcons : ∀ c rest, pE c → pF c → pK rest → pK (c :: rest)) :
    (∀ n, pE n) ∧ (∀ n, pF n) ∧ (∀ l, pA l) ∧ (∀ l, pK l) := by
  have lists : ∀ b, (∀ m, sizeOf m < b → pE m ∧ pF m) → ∀ l : List Node, sizeOf l ≤ b → pA l ∧ pK l := by
    intro b hN l
    induction l with
    | nil => exact fun _ => ⟨anil, knil⟩
    | cons x rest ih =>
      intro hl
      have hx : sizeOf x < b := by simp at hl; omega
      have hr := ih (by simp at hl; omega)
      refine ⟨acons x rest (fun nameN v hp => hN v ?_) hr.1, kcons x rest (hN x hx).1 (hN x hx).2 hr.2⟩
      have := attrParts_size hp
      omega
  have nodes : ∀ n, pE n ∧ pF n := by
    refine Node.sizeInduct fun n ih => ⟨?_, ?_⟩
    · cases he : elementParts n with
      | none => exact notElem n he
      | some p =>
        have := elementParts_size he
        exact elem n _ _ _ he (lists _ ih _ (by omega)).1 (lists _ ih _ (by omega)).2
    · cases hf : fragmentParts n with
      | none => exact notFrag n hf
      | some children =>
        have := fragmentParts_size hf
        exact frag n _ hf (lists _ ih children (by omega)).2
  have all : ∀ l, pA l ∧ pK l := fun l => lists _ (fun m _ => nodes m) l (Nat.le_refl _)
  exact ⟨fun n => (nodes n).1, fun n => (nodes n).2, fun l => (all l).1, fun l => (all l).2⟩

end VueJsx
