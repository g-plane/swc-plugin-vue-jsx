/-
  HintAttrs: simulation lemmas (C12) for the attribute fold.
-/
import VueJsx.Lemmas.HintSim

namespace VueJsx

theorem mergeInto_rel {d1 d2 v1 v2 : Node} (hd : HintRel d1 d2) (hv : HintRel v1 v2) : HintRel (mergeInto d1 v1) (mergeInto d2 v2) := by
  unfold mergeInto
  split
  · obtain ⟨_, _, _ | ⟨⟨_, _, hl⟩, ⟨⟩ | _⟩⟩ := hd
    exact .node _ _ (.cons (.node _ _ (hl.snoc (rel_nArg hv))) .nil)
  · rename_i hne
    split
    · obtain ⟨_, _, _ | ⟨⟨_, _, _⟩, ⟨⟩ | _⟩⟩ := hd
      exact (hne _ _ _ rfl).elim
    · exact rel_nArray (.cons (rel_nArg hd) (.cons (rel_nArg hv) .nil))

theorem dedupeAdd_rel (name : String) {p1 p2 v1 v2 : Node} (hp : HintRel p1 p2) (hv : HintRel v1 v2) {d1 d2 : List Node} (hd : HintRelL d1 d2) :
    HintRelL (dedupeAdd name p1 v1 d1) (dedupeAdd name p2 v2 d2) := by
  induction hd using HintRelL.induct with
  | nil => exact .cons hp .nil
  | cons hx hxs ih =>
    rw [dedupeAdd_eq, dedupeAdd_eq]
    rcases kvStrParts_rel hx with ⟨h1, h2⟩ | ⟨das, k, kas, kks1, kks2, dv1, dv2, h1, h2, hk, hdv⟩
    · rw [h1, h2]; exact .cons hx ih
    · rw [h1, h2]
      dsimp only
      split
      · split
        · exact .cons (.node _ _ (.cons (.node _ _ hk) (.cons (mergeInto_rel hdv hv) .nil))) hxs
        · exact .cons hx hxs
      · exact .cons hx ih

theorem dedupeStep_rel {d1 d2 : List Node} {p1 p2 : Node} (hd : HintRelL d1 d2) (hp : HintRel p1 p2) :
    HintRelL (dedupeStep d1 p1) (dedupeStep d2 p2) := by
  unfold dedupeStep
  rcases kvStrParts_rel hp with ⟨h1, h2⟩ | ⟨das, k, kas, kks1, kks2, dv1, dv2, h1, h2, hk, hdv⟩
  · rw [h1, h2]; exact hd.snoc hp
  · rw [h1, h2]; exact dedupeAdd_rel k hp hdv hd

theorem dedupeProps_rel {p1 p2 : List Node} (hp : HintRelL p1 p2) : HintRelL (dedupeProps p1) (dedupeProps p2) := by
  rw [dedupeProps_eq, dedupeProps_eq]
  exact hp.foldl dedupeStep_rel .nil

structure AccSim (a1 a2 : AttrAcc) : Prop where
  flags : a1.flags = a2.flags
  props : HintRelL a1.props a2.props
  mergeArgs : HintRelL a1.mergeArgs a2.mergeArgs
  directives : DirsRel a1.directives a2.directives
  slots : OptRel a1.slots a2.slots

theorem AccSim.eq {a1 a2 : AttrAcc} (h : AccSim a1 a2) :
    a1 = { a2 with props := a1.props, mergeArgs := a1.mergeArgs, directives := a1.directives, slots := a1.slots } := by
  have hf := AttrAcc.flags_eq.mp h.flags
  cases a1; cases a2
  simp only at hf
  simp only [hf]

theorem AccSim.flagOnly {f : AttrAcc → AttrAcc} (hf : FlagOnly f) {a1 a2 : AttrAcc} (h : AccSim a1 a2) : AccSim (f a1) (f a2) := by
  -- `f a1` is `f a2` with `a1`'s content (`h.eq`, then `hf` moves the override outside `f`); `f a2` has `a2`'s content
  obtain ⟨e1, e2, e3, e4⟩ := hf.frame a2
  rw [h.eq, hf]
  exact ⟨rfl, e1 ▸ h.props, e2 ▸ h.mergeArgs, e3 ▸ h.directives, e4 ▸ h.slots⟩

theorem plainAttrFlags_rel (c : Bool) (n : String) {v1 v2 : Node} (hv : HintRel v1 v2) (t : Bool) {a1 a2 : AttrAcc} (h : AccSim a1 a2) :
    AccSim (plainAttrFlags c n v1 t a1) (plainAttrFlags c n v2 t a2) := by
  have : plainAttrFlags c n v1 t = plainAttrFlags c n v2 t := by
    funext a; unfold plainAttrFlags; rw [hv.isNone, isAttrValueConstant_rel hv]
  rw [this]
  exact h.flagOnly (flagOnly_plainAttrFlags c n v2 t)

theorem AccSim.addDyn {a1 a2 : AttrAcc} (h : AccSim a1 a2) (s : String) :
    AccSim { a1 with dynamicProps := insertUnique s a1.dynamicProps } { a2 with dynamicProps := insertUnique s a2.dynamicProps } :=
  h.flagOnly (f := fun a => { a with dynamicProps := insertUnique s a.dynamicProps }) fun _ _ _ _ _ => rfl

theorem AccSim.setDynKeys {a1 a2 : AttrAcc} (h : AccSim a1 a2) :
    AccSim { a1 with hasDynamicKeys := true } { a2 with hasDynamicKeys := true } :=
  h.flagOnly (f := fun a => { a with hasDynamicKeys := true }) fun _ _ _ _ _ => rfl

theorem vmodelArgKind_rel {a1 a2 : Option Node} (h : OptRel a1 a2) :
    ∃ t s e1 e2, vmodelArgKind a1 = (t, s, e1) ∧ vmodelArgKind a2 = (t, s, e2) ∧ HintRel e1 e2 := by
  refine h.cases ⟨_, _, _, _, rfl, rfl, .refl _⟩ fun hxy => ?_
  unfold vmodelArgKind
  split
  · rename_i heq; cases heq
  · rename_i heq; cases heq
    obtain ⟨_, _, _⟩ := hxy; exact ⟨_, _, _, _, rfl, rfl, .refl _⟩
  · rename_i heq; cases heq
    obtain ⟨_, _, _⟩ := hxy; exact ⟨_, _, _, _, rfl, rfl, .refl _⟩
  · rename_i h1 h2 heq
    cases heq
    split
    · rename_i heq; cases heq
    · rename_i heq; cases heq
      obtain ⟨_, _, _⟩ := hxy; exact (h1 _ _ rfl).elim
    · rename_i heq; cases heq
      obtain ⟨_, _, _⟩ := hxy; exact (h2 _ _ _ rfl).elim
    · rename_i heq; cases heq
      exact ⟨_, _, _, _, rfl, rfl, hxy⟩

theorem vmodelKeys_rel (t : Nat) (s : String) {e1 e2 : Node} (he : HintRel e1 e2) :
    HintRel (vmodelKeys (t, s, e1)).1 (vmodelKeys (t, s, e2)).1 ∧ HintRel (vmodelKeys (t, s, e1)).2.1 (vmodelKeys (t, s, e2)).2.1 ∧
      HintRel (vmodelKeys (t, s, e1)).2.2 (vmodelKeys (t, s, e2)).2.2 := by
  rcases t with _ | _ | t
  · exact ⟨.refl _, .refl _, .refl _⟩
  · exact ⟨.refl _, .refl _, .refl _⟩
  · exact ⟨rel_nComputed he, rel_nComputed (rel_nBin _ he (.refl _)), rel_nComputed (rel_nBin _ (.refl _) he)⟩

theorem vmodelStepK_rel (c : Bool) (t : Nat) (s : String) {e1 e2 : Node} (he : HintRel e1 e2) {tr1 tr2 : Option Node} (htr : OptRel tr1 tr2)
    (m : Option Node) {v1 v2 : Node} (hv : HintRel v1 v2) {a1 a2 : AttrAcc} (h : AccSim a1 a2) :
    AccSim (vmodelStepK c (t, s, e1) tr1 m v1 a1) (vmodelStepK c (t, s, e2) tr2 m v2 a2) := by
  obtain ⟨k1, k2, k3⟩ := vmodelKeys_rel t s he
  obtain ⟨p1, m1, d1, sl1⟩ := AttrAcc.content_eq.mp (vmodelStepK_content c (t, s, e1) tr1 m v1 a1)
  obtain ⟨p2, m2, d2, sl2⟩ := AttrAcc.content_eq.mp (vmodelStepK_content c (t, s, e2) tr2 m v2 a2)
  refine ⟨?_, ?_, ?_, ?_, ?_⟩
  · rw [h.eq, vmodelStepK_flags, vmodelStepK_flags]
    -- the new flags depend on `c t s` and the old flags alone, equal by `h.eq`
    rcases t with _ | _ | t <;> rfl
  · rw [p1, p2]
    refine (h.props.append ?_).snoc (rel_nKV k3 (rel_nModelListener hv))
    cases c
    · exact .nil
    · cases m
      · exact .cons (rel_nKV k1 hv) .nil
      · exact .cons (rel_nKV k1 hv) (.cons (rel_nKV k2 (.refl _)) .nil)
  · rw [m1, m2]; exact h.mergeArgs
  · rw [d1, d2]
    cases c
    · exact h.directives.append (.cons _ htr (.refl m) hv .nil)
    · rw [if_pos rfl, if_pos rfl, List.append_nil, List.append_nil]; exact h.directives
  · rw [sl1, sl2]; exact h.slots

theorem attrValueExpr_rel {v1 v2 : Node} (hv : HintRel v1 v2) {l1 l2 : Option Node} (hl : OptRel l1 l2) {s1 s2 : St} (hs : StSim s1 s2) :
    Sim HintRel (attrValueExpr v1 l1 s1) (attrValueExpr v2 l2 s2) := by
  unfold attrValueExpr
  refine hl.cases ?_ fun hxy => ⟨hxy, hs⟩
  dsimp only
  split
  · obtain ⟨_, _, _⟩ := hv; exact ⟨.refl _, hs⟩
  · obtain ⟨_, _, _⟩ := hv; exact ⟨.refl _, hs⟩
  · obtain ⟨_, _, _ | ⟨he, ⟨⟩ | _⟩⟩ := hv; exact ⟨he, hs⟩
  · rename_i h1 h2 h3
    split
    · obtain ⟨_, _, _⟩ := hv; exact (h1 _ _ rfl).elim
    · obtain ⟨_, _, _⟩ := hv; exact (h2 _ _ _ rfl).elim
    · obtain ⟨_, _, _ | ⟨_, ⟨⟩ | _⟩⟩ := hv; exact (h3 _ _ rfl).elim
    · exact ⟨hv, hs.panic _⟩

theorem propsObject_rel (o : Opts) {p1 p2 : List Node} (hp : HintRelL p1 p2) : HintRel (propsObject o p1) (propsObject o p2) :=
  rel_nObject (rel_ite (dedupeProps_rel hp) hp)

theorem spreadAcc_rel (o : Opts) {e1 e2 : Node} (he : HintRel e1 e2) {a1 a2 : AttrAcc} (h : AccSim a1 a2) :
    AccSim (spreadAcc o e1 a1) (spreadAcc o e2 a2) := by
  unfold spreadAcc
  rw [h.props.isEmpty]
  have flushed : HintRelL (if a2.props.isEmpty then [] else [nObject (dedupeProps a1.props)])
      (if a2.props.isEmpty then [] else [nObject (dedupeProps a2.props)]) :=
    rel_ite .nil (.cons (rel_nObject (dedupeProps_rel h.props)) .nil)
  refine rel_ite ?_ ?_
  · exact { h.setDynKeys with props := .nil, mergeArgs := (h.mergeArgs.append flushed).snoc he }
  · exact { h.setDynKeys with props := h.props.append (spreadEntries_rel he) }

theorem tonHelper_rel {s1 s2 : St} (h : StSim s1 s2) : Sim Eq (tonHelper s1) (tonHelper s2) := by
  rw [h.eq]; unfold tonHelper; dsimp only; split <;> exact ⟨rfl, .of_eq h.2⟩

theorem dirAcc_rel (o : Opts) (c : Bool) : ∀ {d1 d2 : Dir}, DirRel d1 d2 → ∀ {a1 a2 : AttrAcc}, AccSim a1 a2 →
    AccSim (dirAcc o c d1 a1) (dirAcc o c d2 a2)
  | .normal .., .normal .., ⟨rfl, harg, rfl, hval⟩, _, _, h =>
    { h with directives := h.directives.append (.cons _ harg (.refl _) hval .nil) }
  | .text _, .text _, hd, _, _, h => { h.addDyn _ with props := h.props.snoc (rel_nKV (.refl _) hd) }
  | .html _, .html _, hd, _, _, h => { h.addDyn _ with props := h.props.snoc (rel_nKV (.refl _) hd) }
  | .vmodel .., .vmodel .., ⟨harg, htr, rfl, hval⟩, _, _, h => by
    obtain ⟨t, s, e1, e2, k1, k2, he⟩ := vmodelArgKind_rel harg
    unfold dirAcc vmodelStep
    dsimp only
    rw [k1, k2]
    exact vmodelStepK_rel c t s he htr _ hval h
  | .slots _, .slots _, hd, _, _, h => { h with slots := hd }

theorem plainCore_rel (o : Opts) (c : Bool) (nm : String) {v1 v2 : Node} (hv : HintRel v1 v2)
    {l1 l2 : Option Node} (hl : OptRel l1 l2) {a1 a2 : AttrAcc} (h : AccSim a1 a2) {s1 s2 : St} (hs : StSim s1 s2) :
    Sim AccSim (plainCore o c nm v1 l1 a1 s1) (plainCore o c nm v2 l2 a2 s2) := by
  unfold plainCore
  extract_lets value1 ton acc1 helper1 flushed1 value2 acc2 helper2 flushed2
  have value : Sim HintRel value1 value2 := attrValueExpr_rel hv hl hs
  have acc : AccSim acc1 acc2 := plainAttrFlags_rel c nm hv ton h
  split
  · have helper : Sim Eq helper1 helper2 := tonHelper_rel value.2
    have flushed : AccSim flushed1 flushed2 := by
      show AccSim (if _ then _ else _) (if _ then _ else _)
      rw [acc.props.isEmpty]
      exact rel_ite { acc with props := .nil, mergeArgs := acc.mergeArgs.snoc (propsObject_rel o acc.props) } acc
    refine ⟨?_, helper.2⟩
    rw [helper.1]
    exact { flushed with mergeArgs := flushed.mergeArgs.snoc (rel_nCall _ (.cons (rel_nArg value.1) .nil)) }
  · exact ⟨{ acc with props := acc.props.snoc (rel_nKV (.refl _) value.1) }, value.2⟩

theorem attrCore_rel (o : Opts) (c : Bool) {n1 n2 : Node} (hn : HintRel n1 n2) {v1 v2 : Node} (hv : HintRel v1 v2)
    {l1 l2 : Option Node} (hl : OptRel l1 l2) {a1 a2 : AttrAcc} (h : AccSim a1 a2) {s1 s2 : St} (hs : StSim s1 s2) :
    Sim AccSim (attrCore o c n1 v1 l1 a1 s1) (attrCore o c n2 v2 l2 a2 s2) := by
  unfold attrCore attrNameText
  rw [attrNameOf_rel hn]
  have d := parseDirective_rel (attrNameOf n2) hv c hs
  exact rel_ite ⟨dirAcc_rel o c d.1 h, d.2⟩ (plainCore_rel o c _ hv hl h hs)

theorem attrStep_rel (o : Opts) (c : Bool) {x1 x2 : Node} (hx : HintRel x1 x2) {l1 l2 : Option Node} (hl : OptRel l1 l2)
    {a1 a2 : AttrAcc} (h : AccSim a1 a2) {s1 s2 : St} (hs : StSim s1 s2) :
    AccSim (attrStep o c x1 l1 a1 s1).1 (attrStep o c x2 l2 a2 s2).1 ∧ StSim (attrStep o c x1 l1 a1 s1).2 (attrStep o c x2 l2 a2 s2).2 := by
  rw [attrStep_eq, attrStep_eq]
  rcases attrParts_rel hx with ⟨h1, h2⟩ | ⟨n1, n2, v1, v2, h1, h2, hn, hv⟩
  · rw [h1, h2]
    exact (spreadPart_rel hx).cases ⟨h, hs.panic _⟩ fun he => ⟨spreadAcc_rel o he h, hs⟩
  · rw [h1, h2]; exact attrCore_rel o c hn hv hl h hs

theorem patchFlagsOf_rel {a1 a2 : AttrAcc} (h : AccSim a1 a2) : patchFlagsOf a1 = patchFlagsOf a2 := by
  have hd : a1.directives.isEmpty = a2.directives.isEmpty := h.directives.isEmpty
  rw [h.eq]
  unfold patchFlagsOf
  rw [hd]

/-- (not the match of `assembleProps_eq`) -/
theorem spreadOnly_rel {p1 p2 : List Node} (h : HintRelL p1 p2) :
    ((match p1 with | [.mk .spreadElement _ [e]] => some e | _ => none) = none ∧ (match p2 with | [.mk .spreadElement _ [e]] => some e | _ => (none : Option Node)) = none) ∨
    ∃ e1 e2 as, p1 = [.mk .spreadElement as [e1]] ∧ p2 = [.mk .spreadElement as [e2]] ∧ HintRel e1 e2 := by
  split
  · obtain _ | ⟨⟨_, _, _ | ⟨he, ⟨⟩ | _⟩⟩, ⟨⟩ | _⟩ := h
    exact .inr ⟨_, _, _, rfl, rfl, he⟩
  · rename_i hne
    split
    · obtain _ | ⟨⟨_, _, _ | ⟨_, ⟨⟩ | _⟩⟩, ⟨⟩ | _⟩ := h
      exact (hne _ _ rfl).elim
    · exact .inl ⟨rfl, rfl⟩

theorem mergeCall_rel {q1 q2 : List Node} (h : HintRelL q1 q2) {s1 s2 : St} (hs : StSim s1 s2) :
    Sim HintRel (mergeCall q1 s1) (mergeCall q2 s2) := by
  have call : HintRel (nCall (s1.importFromVue "mergeProps").1 (q1.map nArg)) (nCall (s2.importFromVue "mergeProps").1 (q2.map nArg)) := by
    rw [(hs.importFromVue "mergeProps").1]; exact rel_nCall _ h.mapArg
  unfold mergeCall
  split
  · obtain _ | ⟨he, ⟨⟩ | _⟩ := h
    exact ⟨he, hs⟩
  · rename_i hne
    split
    · obtain _ | ⟨_, ⟨⟩ | _⟩ := h
      exact (hne _ rfl).elim
    · exact ⟨call, (hs.importFromVue "mergeProps").2⟩

theorem assembleProps_rel (o : Opts) {p1 p2 m1 m2 : List Node} (hp : HintRelL p1 p2) (hm : HintRelL m1 m2) {s1 s2 : St} (hs : StSim s1 s2) :
    HintRel (assembleProps o p1 m1 s1).1 (assembleProps o p2 m2 s2).1 ∧ StSim (assembleProps o p1 m1 s1).2 (assembleProps o p2 m2 s2).2 := by
  rw [assembleProps_eq, assembleProps_eq, hm.isEmpty, hp.isEmpty]
  have hobj := propsObject_rel o hp
  split
  · exact mergeCall_rel (rel_ite (hm.snoc hobj) hm) hs
  · split
    · split
      · obtain _ | ⟨⟨_, _, _ | ⟨he, ⟨⟩ | _⟩⟩, ⟨⟩ | _⟩ := hp
        exact ⟨he, hs⟩
      · rename_i hne
        split
        · obtain _ | ⟨⟨_, _, _ | ⟨_, ⟨⟩ | _⟩⟩, ⟨⟩ | _⟩ := hp
          exact (hne _ _ rfl).elim
        · exact ⟨hobj, hs⟩
    · exact ⟨HintRel.refl _, hs⟩

end VueJsx
