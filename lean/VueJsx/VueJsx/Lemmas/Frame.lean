/-
  What the lowering of JSX (Directive / Attrs / Element) does to the state.  One walk (`St.Closed.lowering`) shows that a predicate
  which survives the lowering's primitive writes survives the lowering; its instance here is that the lowering never writes the
  fields it only reads: the pragma found in comments, the recorded binding of Vue's `defineComponent`, the type registries.
-/
import VueJsx.Lemmas.ElementEqs
import VueJsx.Lemmas.Reports

namespace VueJsx

/-- `P` survives each thing the lowering does to the state: it appends diagnostics, overwrites the nine fields of `scratch`, and
    pushes, pops and fills the slot-flag stack.  A fact about the state after the lowering is proved by giving these five. -/
structure St.Closed (P : St → Prop) : Prop where
  reports {s s'} : s.Reports s' → P s → P s'
  scratch {s} : P s → ∀ g i x t u v c k l,
    P { s with gen := g, imports := i, panicked := x, transformOnHelper := t, slotHelper := u, injectingVars := v,
               slotCounter := c, injectingConsts := k, assignmentLeft := l }
  push o {s} : P s → P (pushFlag o s)
  pop o {s} : P s → P (popFlag o s).2
  fill {s} : P s → P (stackFill s)

namespace St.Closed
variable {P : St → Prop} (cl : St.Closed P)
include cl

theorem err {st : St} (h : P st) (m : String) : P (st.err m) := cl.reports ⟨[m], rfl⟩ h

theorem panic {st : St} (h : P st) (m : String) : P (st.panic m) := by
  unfold St.panic; split
  · exact h
  · exact cl.scratch h ..

theorem importFromVue {st : St} (h : P st) (item : String) : P (st.importFromVue item).2 := by
  unfold St.importFromVue; split
  · exact h
  · exact cl.scratch h ..

theorem tonHelper {st : St} (h : P st) : P (tonHelper st).2 := by
  unfold VueJsx.tonHelper; split
  · exact h
  · exact cl.scratch h ..

theorem slotHelperOf {st : St} (h : P st) : P (slotHelperOf st).2 := by
  unfold VueJsx.slotHelperOf; split
  · exact h
  · exact cl.scratch h ..

theorem attrValueExpr {st : St} (h : P st) (v : Node) (l : Option Node) : P (attrValueExpr v l st).2 := by
  rcases attrValueExpr_snd v l st with e | e <;> rw [e]
  · exact h
  · exact cl.panic h _

theorem attrStep {st : St} (h : P st) (o : Opts) (c : Bool) (a : Node) (l : Option Node) (acc : AttrAcc) : P (attrStep o c a l acc st).2 := by
  rw [attrStep_eq]
  split
  · unfold attrCore
    refine ite_snd (cl.reports (parseDirective_reports ..) h) ?_
    rw [plainCore_snd]
    exact ite_cases (cl.tonHelper (cl.attrValueExpr h ..)) (cl.attrValueExpr h ..)
  · split
    · exact h
    · exact cl.panic h _

theorem assembleProps {st : St} (h : P st) (o : Opts) (p m : List Node) : P (assembleProps o p m st).2 := by
  rw [assembleProps_eq]
  refine ite_snd ?_ (ite_snd ?_ h)
  · unfold mergeCall; split
    · exact h
    · exact cl.importFromVue h _
  · split <;> exact h

theorem getPragma {st : St} (h : P st) (o : Opts) : P (getPragma o st).2 := by
  unfold VueJsx.getPragma
  split
  · exact ite_snd h (cl.importFromVue (cl.err h _) _)
  · exact cl.importFromVue h _

theorem transformTag {st : St} (h : P st) (env : Env) (n : Node) : P (transformTag env n st).2 := by
  unfold VueJsx.transformTag
  split
  · exact ite_snd h <| ite_snd (cl.importFromVue h _) <| ite_snd h <| ite_snd (cl.importFromVue h _) h
  · exact cl.reports (memberRootCheck_reports ..) h
  · exact h
  · exact h

theorem buildIife {st : St} (h : P st) (elems : List Node) : P (buildIife elems st).2 :=
  buildIife_inv P (fun _ _ h => cl.scratch h ..) (fun _ _ h => cl.scratch h ..) elems st (fun _ => h) (cl.scratch h ..)

theorem finishChildren {st : St} (h : P st) (o : Opts) (e : List Node) (c : Bool) (s : Option Node) (f : Nat) : P (finishChildren o e c s f st).2 := by
  rw [finishChildren_eq]
  cases kidsView e with
  | none | fn _ | object _ => exact h
  | ident _ => exact ite_snd (ite_snd (cl.slotHelperOf (cl.buildIife h _)) (cl.buildIife h _)) h
  | usrCall _ => exact ite_snd (ite_snd (cl.buildIife (cl.slotHelperOf (cl.scratch h ..)) _) h) h   -- `genSlotIdent` writes scratch fields
  | other => exact ite_snd h h

theorem fillIfBound {st : St} (h : P st) (o : Opts) (e : Node) : P (fillIfBound o e st) := ite_cases (cl.fill h) h

theorem dirEntries (t : Node) (a : List Node) : ∀ (ds : List (String × Option Node × Option Node × Node)) {st : St},
    P st → P (dirEntries t a ds st).2
  | [], _, h => h
  | (n, _, _, _) :: rest, st, h => by
    rw [dirEntries_cons]
    refine dirEntries t a rest ?_
    rcases resolveDirective_cases n t a st with ⟨item, e⟩ | e <;> rw [e] <;> exact cl.importFromVue h _

/-- `hA`, about THIS list, is the induction hypothesis inside the walk. -/
theorem transformAttrs_of {o : Opts} {env : Env} {attrs : List Node} (hA : ∀ c acc st, P st → P (trAttrs o env c attrs acc st).2)
    (c : Bool) {st : St} (h : P st) : P (transformAttrs o env attrs c st).2 := by
  cases attrs with
  | nil => rw [transformAttrs_nil]; exact h
  | cons a rest => rw [transformAttrs_cons]; exact cl.assembleProps (hA c {} st h) ..

/-- The walk along `lowering_induct`: each function of the lowering keeps `P`. -/
theorem lowering (o : Opts) (env : Env) :
    (∀ n st, P st → P (trElement o env n st).2) ∧ (∀ n st, P st → P (trFragment o env n st).2) ∧
    (∀ attrs c acc st, P st → P (trAttrs o env c attrs acc st).2) ∧ (∀ cs st, P st → P (trChildList o env cs st).2) := by
  apply lowering_induct
  case elem =>
    intro n nameN attrs children he hA hK st hs
    have hk := cl.pop o <| hK _ <| cl.transformTag (cl.transformAttrs_of hA (isComponent env nameN) (cl.push o hs)) env nameN
    rw [trElement_eq, he]
    refine ite_snd ?_ (cl.dirEntries _ _ _ (cl.importFromVue ?_ _)) <;> exact cl.getPragma (cl.finishChildren hk ..) o
  case notElem => intro n he st hs; rw [trElement_eq, he]; exact cl.panic hs _
  case frag =>
    intro n children hf hK st hs
    rw [trFragment_eq, hf]
    exact cl.finishChildren (cl.pop o <| hK _ <| cl.importFromVue (cl.getPragma (cl.push o hs) o) _) ..
  case notFrag => intro n hf st hs; rw [trFragment_eq, hf]; exact cl.panic hs _
  case anil => intro c acc st hs; rw [trAttrs_nil]; exact hs
  case acons =>
    intro a rest hv ih c acc st hs
    rw [trAttrs_cons]
    refine ih _ _ _ (cl.attrStep ?_ ..)
    rcases lowerAttr_cases o env a st with ⟨hnone, _⟩ | ⟨nameN, v, hp, _, ⟨_, helem⟩ | ⟨_, hfrag⟩⟩
    · rw [hnone]; exact hs
    · rw [helem]; exact (hv nameN v hp).1 st hs
    · rw [hfrag]; exact (hv nameN v hp).2 st hs
  case knil => intro st hs; rw [trChildList_nil]; exact hs
  case kcons =>
    intro c rest hE hF ih st hs
    rw [trChildList_cons]
    cases childView c with
    | text _ => exact ite_snd (ih _ hs) (ih _ (cl.importFromVue hs _))
    | empty => exact ih _ hs
    | expr _ | spread _ => exact ih _ (cl.fillIfBound hs ..)
    | element => exact ih _ (hE _ hs)
    | fragment => exact ih _ (hF _ hs)
    | bad => exact cl.panic (ih _ hs) _

end St.Closed

def St.ro (st : St) : Option String × Option String × List ((String × String) × Node) × List ((String × String) × Node) :=
  (st.pragma, st.defineComponent, st.interfaces, st.typeAliases)

theorem ro_pragma {a b : St} (h : a.ro = b.ro) : a.pragma = b.pragma := congrArg (·.1) h
theorem ro_dc {a b : St} (h : a.ro = b.ro) : a.defineComponent = b.defineComponent := congrArg (·.2.1) h

theorem St.Reports.ro {st st' : St} (h : st.Reports st') : st'.ro = st.ro := by
  obtain ⟨_, rfl⟩ := h; rfl

@[simp] theorem fresh_ro (st : St) (n : String) : (st.fresh n).2.ro = st.ro := rfl
@[simp] theorem err_ro (st : St) (m : String) : (st.err m).ro = st.ro := rfl
@[simp] theorem stackFill_ro (st : St) : (stackFill st).ro = st.ro := rfl

@[simp] theorem popFlag_ro (o : Opts) (st : St) : (popFlag o st).2.ro = st.ro := by
  obtain ⟨x, h⟩ := popFlag_frame o st
  rw [h]; rfl

@[simp] theorem pushFlag_ro (o : Opts) (st : St) : (pushFlag o st).ro = st.ro := by
  obtain ⟨x, h⟩ := pushFlag_frame o st
  rw [h]; rfl

theorem ro_closed (r) : St.Closed (·.ro = r) where
  reports hr := hr.ro.trans
  scratch h := by intros; exact h
  push _ := (pushFlag_ro ..).trans
  pop _ := (popFlag_ro ..).trans
  fill := id

@[simp] theorem transformTag_ro (env : Env) (n : Node) (st : St) : (transformTag env n st).2.ro = st.ro :=
  (ro_closed _).transformTag rfl ..

@[simp] theorem finishChildren_ro (o : Opts) (e : List Node) (c : Bool) (s : Option Node) (f : Nat) (st : St) :
    (finishChildren o e c s f st).2.ro = st.ro :=
  (ro_closed _).finishChildren rfl ..

theorem trElement_ro (o : Opts) (env : Env) : ∀ (n : Node) (st : St), (trElement o env n st).2.ro = st.ro :=
  fun n st => ((ro_closed _).lowering o env).1 n st rfl
theorem trFragment_ro (o : Opts) (env : Env) : ∀ (n : Node) (st : St), (trFragment o env n st).2.ro = st.ro :=
  fun n st => ((ro_closed _).lowering o env).2.1 n st rfl
theorem trAttrs_ro (o : Opts) (env : Env) (c : Bool) : ∀ (attrs : List Node) (acc : AttrAcc) (st : St),
    (trAttrs o env c attrs acc st).2.ro = st.ro := fun attrs acc st => ((ro_closed _).lowering o env).2.2.1 attrs c acc st rfl
theorem trChildList_ro (o : Opts) (env : Env) : ∀ (cs : List Node) (st : St), (trChildList o env cs st).2.ro = st.ro :=
  fun cs st => ((ro_closed _).lowering o env).2.2.2 cs st rfl
theorem transformAttrs_ro (o : Opts) (env : Env) : ∀ (attrs : List Node) (c : Bool) (st : St),
    (transformAttrs o env attrs c st).2.ro = st.ro :=
  fun _ c _ => (ro_closed _).transformAttrs_of (fun _ _ _ => (trAttrs_ro ..).trans) c rfl

end VueJsx
