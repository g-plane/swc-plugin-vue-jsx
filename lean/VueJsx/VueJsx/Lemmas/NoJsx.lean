/-
  What replaces JSX is never itself a JSX node (the lowering half of C07): every function of Directive / Attrs / Element
  returns JSX-free output on prepared input and keeps the state free of JSX (`StOk`).
-/
import VueJsx.Lemmas.ElementEqs
import VueJsx.Lemmas.Reports

namespace VueJsx

/-- all thirteen JSX kinds; `isJsxKind` (C09) has only the three that have a hook of the traversal -/
def isJsxSyntax (k : K) : Bool :=
  match k with
  | .jsxElement | .jsxFragment | .jsxOpening | .jsxClosing | .jsxOpeningFrag | .jsxClosingFrag | .jsxAttr
  | .jsxExprContainer | .jsxEmpty | .jsxSpreadChild | .jsxMember | .jsxNsName | .jsxText => true
  | _ => false

mutual
def NoJsx : Node → Bool
  | .mk k _ ks => !isJsxSyntax k && NoJsxL ks
def NoJsxL : List Node → Bool
  | [] => true
  | n :: ns => NoJsx n && NoJsxL ns
end

theorem NoJsx_kids {k : K} {as : List String} {ks : List Node} (h : NoJsx (.mk k as ks) = true) : NoJsxL ks = true := by
  simp only [NoJsx, Bool.and_eq_true] at h; exact h.2

theorem NoJsx_mk (k : K) (as : List String) (ks : List Node) (hk : isJsxSyntax k = false) (h : NoJsxL ks = true) :
    NoJsx (.mk k as ks) = true := by
  simp [NoJsx, hk, h]

-- local: a file that goes on proving JSX-freeness by `simp` repeats this line (Props/C07 does)
attribute [local simp] NoJsx NoJsxL isJsxSyntax

theorem NoJsxL_iff (l : List Node) : NoJsxL l = true ↔ ∀ x ∈ l, NoJsx x = true := by
  induction l <;> simp [*]

theorem NoJsxL_map {α : Type} (f : α → Node) (l : List α) (h : ∀ x ∈ l, NoJsx (f x) = true) : NoJsxL (l.map f) = true := by
  simpa [NoJsxL_iff] using h

section builders
variable (a b c : Node) (xs ys : List Node) (s t : String) (n : Nat) (q : Bool)
@[simp] theorem nj_nil : NoJsxL [] = true := rfl
@[simp] theorem nj_cons : NoJsxL (a :: xs) = (NoJsx a && NoJsxL xs) := rfl
@[simp] theorem nj_append : NoJsxL (xs ++ ys) = (NoJsxL xs && NoJsxL ys) := by induction xs <;> simp [*, Bool.and_assoc]
@[simp] theorem nj_none : NoJsx nNone = true := by decide
@[simp] theorem nj_null : NoJsx nNull = true := by decide
@[simp] theorem nj_void0 : NoJsx nVoid0 = true := by decide
@[simp] theorem nj_emptyIdent : NoJsx nEmptyIdent = true := by decide
@[simp] theorem nj_list : NoJsx (nList xs) = NoJsxL xs := by simp [nList]
@[simp] theorem nj_stmts : NoJsx (nStmts xs) = NoJsxL xs := by simp [nStmts]
@[simp] theorem nj_ident : NoJsx (nIdent s t) = true := by simp [nIdent]
@[simp] theorem nj_quoteIdent : NoJsx (nQuoteIdent s) = true := nj_ident ..
@[simp] theorem nj_identName : NoJsx (nIdentName s) = true := nj_ident ..
@[simp] theorem nj_str : NoJsx (nStr s) = true := by simp [nStr]
@[simp] theorem nj_num : NoJsx (nNum n) = true := by simp [nNum]
@[simp] theorem nj_bool : NoJsx (nBool q) = true := by simp [nBool]
@[simp] theorem nj_arg : NoJsx (nArg a) = NoJsx a := by simp [nArg]
@[simp] theorem nj_spreadArg : NoJsx (nSpreadArg a) = NoJsx a := by simp [nSpreadArg]
@[simp] theorem nj_spreadElement : NoJsx (nSpreadElement a) = NoJsx a := by simp [nSpreadElement]
@[simp] theorem nj_array : NoJsx (nArray xs) = NoJsxL xs := by simp [nArray]
@[simp] theorem nj_object : NoJsx (nObject xs) = NoJsxL xs := by simp [nObject]
@[simp] theorem nj_kv : NoJsx (nKV a b) = (NoJsx a && NoJsx b) := by simp [nKV]
@[simp] theorem nj_call : NoJsx (nCall a xs) = (NoJsx a && NoJsxL xs) := by simp [nCall]
@[simp] theorem nj_arrow : NoJsx (nArrow xs a) = (NoJsxL xs && NoJsx a) := by simp [nArrow]
@[simp] theorem nj_block : NoJsx (nBlock xs) = NoJsxL xs := by simp [nBlock]
@[simp] theorem nj_return : NoJsx (nReturn a) = NoJsx a := by simp [nReturn]
@[simp] theorem nj_assignParen : NoJsx (nAssignParen a b) = (NoJsx a && NoJsx b) := by simp [nAssignParen]
@[simp] theorem nj_cond : NoJsx (nCond a b c) = (NoJsx a && NoJsx b && NoJsx c) := by simp [nCond, Bool.and_assoc]
@[simp] theorem nj_bin : NoJsx (nBin s a b) = (NoJsx a && NoJsx b) := by simp [nBin]
@[simp] theorem nj_unary : NoJsx (nUnary s a) = NoJsx a := by simp [nUnary]
@[simp] theorem nj_member : NoJsx (nMember a s) = NoJsx a := by simp [nMember]
@[simp] theorem nj_computed : NoJsx (nComputed a) = NoJsx a := by simp [nComputed]
@[simp] theorem nj_varDecl : NoJsx (nVarDecl s xs) = NoJsxL xs := by simp [nVarDecl]
@[simp] theorem nj_fnExpr : NoJsx (nFnExpr xs ys) = (NoJsxL xs && NoJsxL ys) := by simp [nFnExpr]
@[simp] theorem nj_map_arg : NoJsxL (xs.map nArg) = NoJsxL xs := by induction xs <;> simp [*]
theorem nj_bindingIdent (h : NoJsx a = true) : NoJsx (nBindingIdent a) = true := by
  unfold nBindingIdent; split <;> simp_all
theorem nj_declarator (h : NoJsx a = true) (hb : NoJsx b = true) : NoJsx (nDeclarator a b) = true := by
  simp [nDeclarator, nj_bindingIdent a h, hb]
end builders

theorem arrayElems_NoJsx (e : Node) (elems : List Node) (h : NoJsx e = true) (ha : arrayElems e = some elems) : NoJsxL elems = true := by
  unfold arrayElems at ha
  split at ha <;> simp_all

theorem NoJsx_elems {e : Node} (he : NoJsx e = true) (elems : List Node) (i : Nat) (x : Node) (ha : arrayElems e = some elems)
    (hp : plainElem elems i = some x) : NoJsx x = true := by
  have h := arrayElems_NoJsx e elems he ha
  unfold plainElem at hp
  split at hp
  · next heq => cases hp; simpa using (NoJsxL_iff elems).mp h _ (List.mem_of_getElem? heq)
  · cases hp

/-- an attribute value as the visitor leaves it: absent, a string, `{e}` with `e` already JSX-free (`a={}` is rejected by
    the parser), or an element or fragment written directly as the value -/
def ValOk (v : Node) : Bool :=
  match v with
  | .mk .none _ _ => true
  | .mk .str _ [] => true
  | .mk .jsxExprContainer _ [e] => NoJsx e
  | .mk .jsxElement _ _ => true        -- lowered by the caller, or ignored by a directive
  | .mk .jsxFragment _ _ => true
  | _ => false

theorem containerExpr_NoJsx (v e : Node) (hv : ValOk v = true) (h : containerExpr v = some e) : NoJsx e = true := by
  unfold containerExpr at h
  split at h
  · split at h <;> cases h
    exact hv
  · cases h

theorem ValOk_str (v : Node) (hv : ValOk v = true) (hk : v.kind = .str) : NoJsx v = true := by
  obtain ⟨k, as, ks⟩ := v
  cases hk
  cases ks with
  | nil => rfl
  | cons => cases hv

theorem vHtmlOrText_NoJsx (w : String) (v : Node) (st : St) (hv : ValOk v = true) : NoJsx (vHtmlOrText w v st).1 = true := by
  rw [vHtmlOrText_eq]
  split
  · exact ValOk_str v hv ‹_›
  · unfold vHtmlCore
    split
    next e he =>
      have hne := containerExpr_NoJsx v e hv he
      split
      next elems hae =>
        split
        next first hp => exact NoJsx_elems hne _ _ _ hae hp
        next => exact hne
      next => exact hne
    next => exact nj_bool true

def optOk (o : Option Node) : Bool := match o with | some n => NoJsx n | none => true

def DirOk (d : Dir) : Bool :=
  match d with
  | .normal _ a m v => optOk a && optOk m && NoJsx v
  | .text e => NoJsx e
  | .html e => NoJsx e
  | .vmodel a t m v => optOk a && optOk t && optOk m && NoJsx v
  | .slots e => optOk e

@[simp] theorem optOk_some' (n : Node) : optOk (some n) = NoJsx n := rfl
@[simp] theorem optOk_none' : optOk none = true := rfl
theorem optOk_transformModifiers (mods : Option (List String)) (q : Bool) : optOk (mods.bind (transformModifiers · q)) = true := by
  cases mods with
  | none => rfl
  | some m =>
    show optOk (transformModifiers m q) = true
    unfold transformModifiers
    split <;> simp [NoJsxL_map, apply_ite NoJsx]
/-- `optOk_transformModifiers`, `optOk` unfolded -/
theorem optOk_tm' (m : List String) (q : Bool) :
    (match transformModifiers m q with | some n => NoJsx n | none => true) = true := optOk_transformModifiers (some m) q

theorem optOk_iff (o : Option Node) : optOk o = true ↔ ∀ x, o = some x → NoJsx x = true := by
  cases o <;> simp

/-- `undefined` stands for the argument that modifiers need and the attribute does not give -/
theorem optOk_orVoid (b : Prop) [Decidable b] (a : Option Node) : optOk a = true →
    optOk (if b then (match a with | some a => some a | none => some nVoid0) else a) = true := by
  split <;> cases a <;> simp

theorem vmodelFinish_DirOk (c : Bool) (t : St × Node × Option Node × Option (List String))
    (hv : NoJsx t.2.1 = true) (ha : optOk t.2.2.1 = true) : DirOk (vmodelFinish c t).1 = true := by
  obtain ⟨st, v, a, m⟩ := t
  simp only [vmodelFinish, DirOk, Bool.and_eq_true]
  exact ⟨⟨⟨ha, optOk_orVoid _ a ha⟩, optOk_transformModifiers m c⟩,
    ite_cases (P := fun r : Node × St => NoJsx r.1 = true) hv nj_emptyIdent⟩

theorem parseVModel_DirOk (v : Node) (c : Bool) (arg : Option Node) (r : List String) (st : St)
    (hv : ValOk v = true) (ha : optOk arg = true) : DirOk (parseVModel v c arg r st).1 = true := by
  have key : ∀ e s, NoJsx e = true → DirOk (vmodelFinish c (vmodelTuple c e arg r s)).1 = true := by
    intro e s he
    obtain ⟨h1, h2⟩ := vmodelTuple_parts (fun n => NoJsx n = true) c e arg r s (he := he) (hel := NoJsx_elems he)
      (ha := (optOk_iff arg).mp ha) (h0 := nj_emptyIdent) (hn := nj_null)
    exact vmodelFinish_DirOk c _ h1 ((optOk_iff _).mpr h2)
  rw [parseVModel_eq]
  cases hc : containerExpr v with
  | some e => exact key e st (containerExpr_NoJsx v e hv hc)
  | none => exact key nEmptyIdent _ nj_emptyIdent

theorem normalFinish_DirOk (d : String) (t : Node × Option Node × Option (List String))
    (hv : NoJsx t.1 = true) (ha : optOk t.2.1 = true) : DirOk (normalFinish d t) = true := by
  obtain ⟨v, a, m⟩ := t
  simp only [normalFinish, DirOk, Bool.and_eq_true]
  exact ⟨⟨optOk_orVoid _ a ha, optOk_transformModifiers m false⟩, hv⟩

theorem parseDirective_DirOk (n : AttrName) (v : Node) (c : Bool) (st : St) (hv : ValOk v = true) :
    DirOk (parseDirective n v c st).1 = true := by
  have harg : optOk ((dirNameParts n).2.1.map nStr) = true := by
    cases (dirNameParts n).2.1 <;> simp
  have hslots : DirOk (parseVSlots v) = true := (optOk_iff _).mpr fun e => containerExpr_NoJsx v e hv
  have hcont := fun e hc => have he := containerExpr_NoJsx v e hv hc; And.intro he (NoJsx_elems he)
  obtain ⟨h1, h2⟩ := normalTuple_parts (fun n => NoJsx n = true) v _ (dirNameParts n).2.2 (hcont := hcont)
    (hs := ValOk_str v hv) (ha := (optOk_iff _).mp harg) (h0 := nj_void0)
  let P : Dir × St → Prop := fun r => DirOk r.1 = true
  rw [parseDirective_eq]
  exact ite_cases (P := P) (vHtmlOrText_NoJsx _ v st hv) <| ite_cases (P := P) (vHtmlOrText_NoJsx _ v st hv) <|
    ite_cases (P := P) (parseVModel_DirOk _ _ _ _ _ hv harg) <|
    ite_cases (P := P) hslots (normalFinish_DirOk _ _ h1 ((optOk_iff _).mpr h2))

/-- the five node-carrying fields of the state are JSX-free -/
structure StOk (st : St) : Prop where
  imports : ∀ p ∈ st.imports, NoJsx p.2 = true
  ton : optOk st.transformOnHelper = true
  slotH : optOk st.slotHelper = true
  vars : NoJsxL st.injectingVars = true
  consts : NoJsxL st.injectingConsts = true

/-- a step that leaves these alone keeps `StOk` (`StOk.of_nodes rfl`) -/
def St.nodes (st : St) : List (String × Node) × Option Node × Option Node × List Node × List Node :=
  (st.imports, st.transformOnHelper, st.slotHelper, st.injectingVars, st.injectingConsts)

theorem StOk.of_nodes {a b : St} (hb : StOk b) (h : a.nodes = b.nodes) : StOk a := by
  simp only [St.nodes, Prod.mk.injEq] at h
  obtain ⟨h1, h2, h3, h4, h5⟩ := h
  exact ⟨h1 ▸ hb.imports, h2 ▸ hb.ton, h3 ▸ hb.slotH, h4 ▸ hb.vars, h5 ▸ hb.consts⟩

@[simp] theorem err_nodes (st : St) (m : String) : (st.err m).nodes = st.nodes := rfl

theorem St.Reports.nodes {a b : St} (h : a.Reports b) : b.nodes = a.nodes := by
  obtain ⟨ms, rfl⟩ := h; rfl

theorem err_ok {st : St} {m : String} (h : StOk st) : StOk (st.err m) := h.of_nodes rfl

theorem panic_ok {st : St} {m : String} (h : StOk st) : StOk (st.panic m) :=
  h.of_nodes (by unfold St.panic; split <;> rfl)

theorem mem_insertSorted (k : String) (v : Node) (l : List (String × Node)) (p : String × Node)
    (h : p ∈ insertSorted k v l) : p = (k, v) ∨ p ∈ l := by
  induction l with
  | nil => simpa [insertSorted] using h
  | cons x rest ih =>
    simp only [insertSorted] at h
    split at h <;> simp only [List.mem_cons] at h ⊢
    · exact h
    · exact h.elim (.inr ∘ .inl) fun h => (ih h).imp_right .inr

theorem importFromVue_ok (st : St) (item : String) (h : StOk st) :
    NoJsx (st.importFromVue item).1 = true ∧ StOk (st.importFromVue item).2 := by
  unfold St.importFromVue
  split
  · next p hp => exact ⟨h.imports p (List.mem_of_find?_eq_some hp), h⟩
  · refine ⟨nj_ident .., { h with imports := fun p hp => ?_ }⟩
    rcases mem_insertSorted _ _ _ _ hp with rfl | hp
    · exact nj_ident ..
    · exact h.imports p hp

theorem mergeInto_NoJsx (d v : Node) (hd : NoJsx d = true) (hv : NoJsx v = true) : NoJsx (mergeInto d v) = true := by
  unfold mergeInto
  split <;> simp_all

theorem dedupeAdd_NoJsx (name : String) (prop value : Node) (hp : NoJsx prop = true) (hv : NoJsx value = true) :
    ∀ (l : List Node), NoJsxL l = true → NoJsxL (dedupeAdd name prop value l) = true
  | [], _ => by simp [dedupeAdd, hp]
  | d :: ds, h => by
    simp only [nj_cons, Bool.and_eq_true] at h
    have ih := dedupeAdd_NoJsx name prop value hp hv ds h.2
    unfold dedupeAdd
    split
    · split
      · split <;> simp_all [mergeInto_NoJsx]
      · simp_all
    · simp_all

theorem dedupeProps_NoJsx (props : List Node) (h : NoJsxL props = true) : NoJsxL (dedupeProps props) = true := by
  rw [dedupeProps_eq]
  refine List.foldlRecOn props dedupeStep (motive := (NoJsxL · = true)) rfl fun acc ha p hp => ?_
  have hpj := (NoJsxL_iff props).mp h p hp
  unfold dedupeStep
  split
  · next hk => cases kvStrParts_some hk; exact dedupeAdd_NoJsx _ _ _ hpj (by simp_all) acc ha
  · simp [ha, hpj]

theorem dedupeIf_NoJsx (b : Bool) (props : List Node) (h : NoJsxL props = true) :
    NoJsxL (if b then dedupeProps props else props) = true := by
  split
  · exact dedupeProps_NoJsx _ h
  · exact h

def dirTupleOk (d : String × Option Node × Option Node × Node) : Bool := optOk d.2.1 && optOk d.2.2.1 && NoJsx d.2.2.2

/-- the nodes of the accumulator (`AttrAcc.content`) are JSX-free -/
structure AccOk (acc : AttrAcc) : Prop where
  props : NoJsxL acc.props = true
  mergeArgs : NoJsxL acc.mergeArgs = true
  slots : optOk acc.slots = true
  dirs : ∀ d ∈ acc.directives, dirTupleOk d = true

theorem AccOk_iff (a : AttrAcc) : AccOk a ↔ NoJsxL a.content.1 = true ∧ NoJsxL a.content.2.1 = true ∧
    optOk a.content.2.2.2 = true ∧ ∀ d ∈ a.content.2.2.1, dirTupleOk d = true :=
  ⟨fun h => ⟨h.props, h.mergeArgs, h.slots, h.dirs⟩, fun h => ⟨h.1, h.2.1, h.2.2.1, h.2.2.2⟩⟩

theorem AccOk_of_content {a b : AttrAcc} (h : a.content = b.content) (hb : AccOk b) : AccOk a :=
  (AccOk_iff a).mpr (h ▸ (AccOk_iff b).mp hb)

theorem nj_modelListener (t : Node) (h : NoJsx t = true) : NoJsx (nModelListener t) = true := by
  simp [nModelListener, h, nj_bindingIdent]

theorem vmodelArgKind_NoJsx (a : Option Node) (ha : optOk a = true) : NoJsx (vmodelArgKind a).2.2 = true := by
  unfold vmodelArgKind
  split <;> simp_all

theorem vmodelKeys_NoJsx (ak : Nat × String × Node) (h : NoJsx ak.2.2 = true) :
    NoJsx (vmodelKeys ak).1 = true ∧ NoJsx (vmodelKeys ak).2.1 = true ∧ NoJsx (vmodelKeys ak).2.2 = true := by
  unfold vmodelKeys
  split <;> simp_all

theorem vmodelStepK_ok (c : Bool) (ak : Nat × String × Node) (t m : Option Node) (v : Node) (acc : AttrAcc)
    (hak : NoJsx ak.2.2 = true) (ht : optOk t = true) (hm : optOk m = true) (hv : NoJsx v = true) (hacc : AccOk acc) :
    AccOk (vmodelStepK c ak t m v acc) := by
  have hk := vmodelKeys_NoJsx ak hak
  have hl := nj_modelListener v hv
  rw [AccOk_iff, vmodelStepK_content]
  refine ⟨?_, hacc.mergeArgs, hacc.slots, ?_⟩
  · cases c <;> cases m <;> simp_all [hacc.props]
  · cases c
    · exact List.forall_mem_append.mpr ⟨hacc.dirs, by simp [dirTupleOk, ht, hm, hv]⟩
    · simpa using hacc.dirs

/-- the value of a plain attribute that was not lowered -/
def StrictValOk (v : Node) : Bool :=
  match v with
  | .mk .none _ _ => true
  | .mk .str _ [] => true
  | .mk .jsxExprContainer _ [e] => NoJsx e
  | _ => false

theorem ValOk_of_strict {v : Node} (h : StrictValOk v = true) : ValOk v = true := by
  unfold StrictValOk at h
  split at h
  · rfl
  · rfl
  · exact h
  · cases h

theorem attrValueExpr_ok (v : Node) (l : Option Node) (st : St) (hv : l.isSome = true ∨ StrictValOk v = true) (hl : optOk l = true)
    (hst : StOk st) : NoJsx (attrValueExpr v l st).1 = true ∧ StOk (attrValueExpr v l st).2 := by
  unfold attrValueExpr
  split
  · exact ⟨hl, hst⟩
  · have hs : StrictValOk v = true := hv.resolve_left (by simp)
    -- a string literal without atoms is the one that reaches the catch-all arm
    unfold StrictValOk at hs
    split at hs
    · exact ⟨nj_bool _, hst⟩
    · next as =>
      cases as with
      | nil => exact ⟨rfl, panic_ok hst⟩
      | cons => exact ⟨nj_str _, hst⟩
    · exact ⟨hs, hst⟩
    · cases hs

/-- an attribute as the fold meets it, with the lowered value `l` of the element written as its value -/
def AttrOk (a : Node) (l : Option Node) : Prop :=
  optOk l = true ∧
  (∀ nameN v, attrParts a = some (nameN, v) →
    (isDirectiveAttrName (attrNameOf nameN) = true → ValOk v = true) ∧
    (¬isDirectiveAttrName (attrNameOf nameN) = true → l.isSome = true ∨ StrictValOk v = true)) ∧
  (∀ e, spreadPart a = some e → NoJsx e = true)

theorem tonHelper_ok (st : St) (hst : StOk st) : NoJsx (tonHelper st).1 = true ∧ StOk (tonHelper st).2 := by
  unfold tonHelper
  split
  · next h hh => exact ⟨(optOk_iff _).mp hst.ton h hh, hst⟩
  · exact ⟨nj_ident .., { hst with ton := by simp [St.fresh] }⟩

theorem plainCore_ok (o : Opts) (c : Bool) (attrName : String) (valueN : Node) (l : Option Node) (acc : AttrAcc) (st : St)
    (hv : l.isSome = true ∨ StrictValOk valueN = true) (hl : optOk l = true) (hacc : AccOk acc) (hst : StOk st) :
    AccOk (plainCore o c attrName valueN l acc st).1 ∧ StOk (plainCore o c attrName valueN l acc st).2 := by
  have hflags := plainAttrFlags_content c attrName valueN (o.transformOn && (attrName == "on" || attrName == "nativeOn")) acc
  have hacc1 := AccOk_of_content hflags hacc
  obtain ⟨hval, hst1⟩ := attrValueExpr_ok valueN l st hv hl hst
  obtain ⟨hh, hst2⟩ := tonHelper_ok _ hst1
  unfold plainCore
  simp only
  generalize plainAttrFlags c attrName valueN _ acc = acc1 at hacc1 ⊢
  split
  · refine ⟨?_, hst2⟩
    split
    · exact { hacc1 with props := rfl, mergeArgs := by simp [hacc1.mergeArgs, dedupeIf_NoJsx, hacc1.props, hh, hval] }
    · exact { hacc1 with mergeArgs := by simp [hacc1.mergeArgs, hh, hval] }
  · exact ⟨{ hacc1 with props := by simp [hacc1.props, hval] }, hst1⟩

theorem dirAcc_ok (o : Opts) (c : Bool) (d : Dir) (acc : AttrAcc) (hd : DirOk d = true) (hacc : AccOk acc) : AccOk (dirAcc o c d acc) := by
  cases d with
  | normal n a m v =>
    exact { hacc with dirs := List.forall_mem_append.mpr ⟨hacc.dirs, by simpa [DirOk, dirTupleOk] using hd⟩ }
  | html e | text e => exact { hacc with props := by simp [dirAcc, hacc.props, show NoJsx e = true from hd] }
  | vmodel a t m v =>
    simp only [DirOk, Bool.and_eq_true] at hd
    obtain ⟨⟨⟨ha, ht⟩, hm⟩, hv⟩ := hd
    exact vmodelStepK_ok c _ t m v acc (vmodelArgKind_NoJsx a ha) ht hm hv hacc
  | slots e => exact { hacc with slots := hd }

theorem spreadAcc_ok (o : Opts) (e : Node) (acc : AttrAcc) (he : NoJsx e = true) (hacc : AccOk acc) : AccOk (spreadAcc o e acc) := by
  have hent : NoJsxL (spreadEntries e) = true := by
    unfold spreadEntries
    split
    next hobj => rw [objLitParts_some hobj] at he; simpa using he
    next => simpa using he
  unfold spreadAcc
  split
  · exact { hacc with props := rfl, mergeArgs := by simp [hacc.mergeArgs, he, apply_ite NoJsxL, dedupeProps_NoJsx _ hacc.props] }
  · exact { hacc with props := by simp [hacc.props, hent] }

theorem attrStep_ok (o : Opts) (c : Bool) (a : Node) (l : Option Node) (acc : AttrAcc) (st : St)
    (ha : AttrOk a l) (hacc : AccOk acc) (hst : StOk st) :
    AccOk (attrStep o c a l acc st).1 ∧ StOk (attrStep o c a l acc st).2 := by
  obtain ⟨hl, hattr, hspread⟩ := ha
  rw [attrStep_eq]
  split
  next nameN v hp =>
    unfold attrCore
    split
    next hd =>
      exact ⟨dirAcc_ok o c _ acc (parseDirective_DirOk _ v c st ((hattr nameN v hp).1 hd)) hacc,
        hst.of_nodes (parseDirective_reports ..).nodes⟩
    next hd => exact plainCore_ok o c _ v l acc st ((hattr nameN v hp).2 hd) hl hacc hst
  next =>
    split
    next e he => exact ⟨spreadAcc_ok o e acc (hspread e he) hacc, hst⟩
    next => exact ⟨hacc, panic_ok hst⟩

theorem mergeCall_ok (args : List Node) (st : St) (h : NoJsxL args = true) (hst : StOk st) :
    NoJsx (mergeCall args st).1 = true ∧ StOk (mergeCall args st).2 := by
  unfold mergeCall
  split
  · exact ⟨by simpa using h, hst⟩
  · have hi := importFromVue_ok st "mergeProps" hst
    exact ⟨by simp [hi.1, h], hi.2⟩

theorem assembleProps_ok (o : Opts) (props mergeArgs : List Node) (st : St) (hp : NoJsxL props = true) (hm : NoJsxL mergeArgs = true)
    (hst : StOk st) : NoJsx (assembleProps o props mergeArgs st).1 = true ∧ StOk (assembleProps o props mergeArgs st).2 := by
  have hobj : NoJsx (propsObject o props) = true := by simp [propsObject, dedupeIf_NoJsx, hp]
  rw [assembleProps_eq]
  split
  · exact mergeCall_ok _ st (by split <;> simp [hm, hobj]) hst
  · split
    · split
      · exact ⟨by simp_all, hst⟩
      · exact ⟨hobj, hst⟩
    · exact ⟨nj_null, hst⟩

theorem getPragma_ok (o : Opts) (st : St) (hst : StOk st) : NoJsx (getPragma o st).1 = true ∧ StOk (getPragma o st).2 := by
  unfold getPragma
  split
  · split
    · exact ⟨nj_quoteIdent _, hst⟩
    · exact importFromVue_ok _ _ (err_ok hst)
  · exact importFromVue_ok st _ hst

mutual
/-- a well-formed member tag: `Identifier . name` or `(member tag) . name` -/
def WfMember : Node → Bool
  | .mk .jsxMember _ [obj, .mk .ident _ []] =>
    (match obj with
     | .mk .ident _ _ => true
     | .mk .jsxMember as ks => WfMember (.mk .jsxMember as ks)
     | _ => false)
  | _ => false
end

/-- For every well-formed member tag, of any depth, the lowered tag contains no JSX syntax. -/
theorem C07_member_tag_no_jsx : ∀ (m : Node), WfMember m = true → NoJsx (jsxMemberToExpr m) = true := by
  intro m h
  have hprop : ∀ pas, NoJsx (memberProp (.mk .ident pas [])) = true := fun pas => by
    unfold memberProp
    split
    · split <;> simp
    · simp
  fun_induction WfMember m
  · rw [jsxMemberToExpr_pair]
    unfold memberObj
    split
    · simp [hprop]
    · simp [hprop]
    · next hne => exact (hne _ _ rfl).elim
  · next ih => simpa [jsxMemberToExpr_pair, hprop, memberObj] using ih h
  · cases h
  · cases h

/-- a tag name as the parser produces it -/
def TagOk (n : Node) : Bool :=
  match n with
  | .mk .ident (_ :: _ :: _) _ => true
  | .mk .jsxMember as ks => WfMember (.mk .jsxMember as ks)
  | .mk .jsxNsName _ [_, _] => true
  | _ => false

theorem memberRootCheck_ok (m : Node) (st : St) (h : StOk st) : StOk (memberRootCheck m st) :=
  h.of_nodes (memberRootCheck_reports m st).nodes

theorem transformTag_ok (env : Env) (n : Node) (st : St) (hn : TagOk n = true) (hst : StOk st) :
    NoJsx (transformTag env n st).1 = true ∧ StOk (transformTag env n st).2 := by
  let P : Node × St → Prop := fun r => NoJsx r.1 = true ∧ StOk r.2
  unfold TagOk at hn
  split at hn
  · have hrc := importFromVue_ok st "resolveComponent" hst
    simp only [transformTag]
    refine ite_cases (P := P) ?known <| ite_cases (P := P) ?fragment <| ite_cases (P := P) ?pattern <|
      ite_cases (P := P) ?unresolved ?bound
    case known | pattern => exact ⟨nj_str _, hst⟩
    case fragment => exact importFromVue_ok st _ hst
    case unresolved => exact ⟨by simp [hrc.1], hrc.2⟩
    case bound => exact ⟨nj_ident .., hst⟩
  · exact ⟨C07_member_tag_no_jsx _ hn, memberRootCheck_ok _ st hst⟩
  · exact ⟨nj_str _, hst⟩
  · cases hn

theorem genSlotIdent_ok (st : St) (hst : StOk st) : NoJsx (genSlotIdent st).1 = true ∧ StOk (genSlotIdent st).2 :=
  ⟨nj_ident .., { hst with vars := by simp [genSlotIdent, St.fresh, hst.vars, nj_declarator] }⟩

theorem iifeStep_ok (left : Node) (acc : List Node × St) (e : Node) (hacc : NoJsxL acc.1 = true ∧ StOk acc.2) (he : NoJsx e = true) :
    NoJsxL (iifeStep left acc e).1 = true ∧ StOk (iifeStep left acc e).2 := by
  obtain ⟨out, st⟩ := acc
  simp only [iifeStep]
  split
  · split
    · exact ⟨by simp [hacc.1, St.fresh], { hacc.2 with consts := by simp_all [St.fresh, hacc.2.consts, nj_declarator] }⟩
    · exact ⟨by simpa [hacc.1] using he, hacc.2⟩
  · exact ⟨by simp [hacc.1, he], hacc.2⟩

theorem buildIife_ok (elems : List Node) (st : St) (he : NoJsxL elems = true) (hst : StOk st) :
    NoJsxL (buildIife elems st).1 = true ∧ StOk (buildIife elems st).2 := by
  rw [buildIife_eq]
  split
  · exact ⟨he, hst⟩
  · refine List.foldlRecOn elems _ (motive := fun acc => NoJsxL acc.1 = true ∧ StOk acc.2) ?_
      fun acc hacc e hm => iifeStep_ok _ acc e hacc ((NoJsxL_iff elems).mp he e hm)
    exact ⟨rfl, hst.of_nodes rfl⟩

theorem slotProps_NoJsx (slots : Option Node) (hs : optOk slots = true) : NoJsxL (slotProps slots) = true := by
  unfold slotProps
  split <;> simp_all

theorem wrapChildren_NoJsx (o : Opts) (elems : List Node) (f : Nat) (slots : Option Node) (he : NoJsxL elems = true)
    (hs : optOk slots = true) : NoJsx (wrapChildren o elems f slots) = true := by
  rw [wrapChildren_eq]
  split <;> simp [wrapBase, hintEntry, he, slotProps_NoJsx slots hs]

theorem slotHelper_ok (st : St) (hst : StOk st) :
    let r := (match st.slotHelper with
      | some h => (h, st)
      | none => let (h, st) := st.fresh "_isSlot"; (h, { st with slotHelper := some h }))
    NoJsx r.1 = true ∧ StOk r.2 := by
  split
  · next h hh => exact ⟨(optOk_iff _).mp hst.slotH h hh, hst⟩
  · exact ⟨nj_ident .., { hst with slotH := by simp [St.fresh] }⟩

theorem kidsView_NoJsx {elems : List Node} (h : NoJsxL elems = true) :
    match kidsView elems with
    | .ident e | .usrCall e | .fn e => NoJsx e = true
    | .object props => NoJsxL props = true
    | _ => True := by
  -- every view but `none` / `other` is of a sole argument `e`, and `NoJsxL [arg e]` is `NoJsx e`
  have sole : ∀ as e, NoJsxL [Node.mk .arg as [e]] = true → NoJsx e = true := fun as e h => by simpa using h
  fun_cases kidsView elems
  case case2 | case3 | case5 | case6 => exact sole _ _ h
  case case7 => simpa using sole _ _ h
  all_goals trivial

theorem finishChildren_ok (o : Opts) (elems : List Node) (c : Bool) (slots : Option Node) (f : Nat) (st : St)
    (he : NoJsxL elems = true) (hs : optOk slots = true) (hst : StOk st) :
    NoJsx (finishChildren o elems c slots f st).1 = true ∧ StOk (finishChildren o elems c slots f st).2 := by
  let P : Node × St → Prop := fun r => NoJsx r.1 = true ∧ StOk r.2
  have hw := fun es h => wrapChildren_NoJsx o es f slots h hs
  have hsp := slotProps_NoJsx slots hs
  -- `slotHelper_ok` is stated on the body of `slotHelperOf`
  have hslot : ∀ s, StOk s → P (slotHelperOf s) := slotHelper_ok
  have hfall : P (nArray elems, st) := ⟨by simpa using he, hst⟩
  have hv := kidsView_NoJsx he
  rw [finishChildren_eq]
  generalize kidsView elems = v at hv ⊢
  cases v <;> simp only at hv ⊢
  case none => exact ⟨by cases slots <;> simp_all, hst⟩
  case ident e =>
    have hiife := buildIife_ok elems st he hst
    have hh := hslot _ hiife.2
    refine ite_cases (P := P) (ite_cases (P := P) ?objectSlots ?component) hfall
    case objectSlots => exact ⟨by simp [hh.1, hv, hw _ hiife.1], hh.2⟩
    case component => exact ⟨hw _ hiife.1, hiife.2⟩
  case usrCall e =>
    have hid := genSlotIdent_ok st hst
    have hh := hslot _ hid.2
    have hiife := buildIife_ok [nArg (genSlotIdent st).1] _ (by simp [hid.1]) hh.2
    refine ite_cases (P := P) (ite_cases (P := P) ?objectSlots ?component) hfall
    case objectSlots => exact ⟨by simp [hh.1, hid.1, hv, hw _ hiife.1], hiife.2⟩
    case component => exact ⟨hw _ he, hst⟩
  case fn e => exact ⟨by simp [hv, hsp], hst⟩
  case object props => exact ⟨by split <;> simp [hv, hsp, hintEntry], hst⟩
  case other => exact ite_cases (P := P) ⟨hw _ he, hst⟩ hfall

theorem resolveDirective_ok (n : String) (t : Node) (a : List Node) (st : St) (hst : StOk st) :
    NoJsx (resolveDirective n t a st).1 = true ∧ StOk (resolveDirective n t a st).2 := by
  rcases resolveDirective_cases n t a st with ⟨item, h⟩ | h <;> rw [h]
  · exact importFromVue_ok st item hst
  · exact ⟨by simp [(importFromVue_ok st "resolveDirective" hst).1], (importFromVue_ok st "resolveDirective" hst).2⟩

@[simp] theorem nj_optArg (x : Option Node) : NoJsxL (optArg x) = optOk x := by cases x <;> simp [optArg]

theorem dirEntries_ok (t : Node) (a : List Node) : ∀ (ds : List (String × Option Node × Option Node × Node)) (st : St),
    (∀ d ∈ ds, dirTupleOk d = true) → StOk st → NoJsxL (dirEntries t a ds st).1 = true ∧ StOk (dirEntries t a ds st).2
  | [], st, _, hst => ⟨rfl, hst⟩
  | (n, arg, m, v) :: rest, st, hd, hst => by
    have h0 : (optOk arg = true ∧ optOk m = true) ∧ NoJsx v = true := by simpa [dirTupleOk] using hd _ (.head _)
    have hr := resolveDirective_ok n t a st hst
    have ih := dirEntries_ok t a rest _ (fun d hdm => hd d (.tail _ hdm)) hr.2
    rw [dirEntries_cons]
    exact ⟨by simp [hr.1, h0, ih.1], ih.2⟩

mutual
/-- a JSX element / fragment whose embedded expressions are already JSX-free: what the traversal hands to the lowering -/
def PrepEl : Node → Bool
  | .mk .jsxElement _ [.mk .jsxOpening _ [nameN, .mk .list _ attrs, _], .mk .list _ children, _] =>
    TagOk nameN && PrepAttrs attrs && PrepKids children
  | .mk .jsxFragment _ [_, .mk .list _ children, _] => PrepKids children
  | _ => false
def PrepAttrs : List Node → Bool
  | [] => true
  | a :: rest => PrepAttr a && PrepAttrs rest
def PrepAttr : Node → Bool
  | .mk .jsxAttr _ [nameN, v] =>
    if isDirectiveAttrName (attrNameOf nameN) then ValOk v
    else
      match v with
      | .mk .jsxElement as ks => PrepEl (.mk .jsxElement as ks)
      | .mk .jsxFragment as ks => PrepEl (.mk .jsxFragment as ks)
      | v => StrictValOk v
  | .mk .spreadElement _ [e] => NoJsx e
  | _ => false
def PrepKids : List Node → Bool
  | [] => true
  | c :: rest => PrepKid c && PrepKids rest
def PrepKid : Node → Bool
  | .mk .jsxText _ _ => true
  | .mk .jsxExprContainer _ [e] => (match e with | .mk .jsxEmpty _ _ => true | e => NoJsx e)
  | .mk .jsxSpreadChild _ [e] => NoJsx e
  | .mk .jsxElement as ks => PrepEl (.mk .jsxElement as ks)
  | .mk .jsxFragment as ks => PrepEl (.mk .jsxFragment as ks)
  | _ => false
end

theorem pushFlag_ok (o : Opts) (st : St) (h : StOk st) : StOk (pushFlag o st) :=
  h.of_nodes (by obtain ⟨x, e⟩ := pushFlag_frame o st; rw [e]; rfl)

theorem popFlag_ok (o : Opts) (st : St) (h : StOk st) : StOk (popFlag o st).2 :=
  h.of_nodes (by obtain ⟨x, e⟩ := popFlag_frame o st; rw [e]; rfl)

theorem fillIfBound_ok (o : Opts) (e : Node) (st : St) (h : StOk st) : StOk (fillIfBound o e st) :=
  h.of_nodes (by unfold fillIfBound; split <;> rfl)

structure ArOk (ar : AttrsResult) : Prop where
  attrs : NoJsx ar.attrs = true
  slots : optOk ar.slots = true
  dirs : ∀ d ∈ ar.directives, dirTupleOk d = true

theorem PrepEl_element {n nameN : Node} {attrs children : List Node} (he : elementParts n = some (nameN, attrs, children))
    (hp : PrepEl n = true) : TagOk nameN = true ∧ PrepAttrs attrs = true ∧ PrepKids children = true := by
  obtain ⟨_, _, _, _, _, _, rfl⟩ := elementParts_some he
  simpa [PrepEl, and_assoc] using hp

theorem PrepEl_fragment {n : Node} {children : List Node} (hf : fragmentParts n = some children) (hp : PrepEl n = true) :
    PrepKids children = true := by
  obtain ⟨_, _, _, _, rfl⟩ := fragmentParts_some hf
  simpa [PrepEl] using hp

theorem PrepEl_parts {n : Node} (hp : PrepEl n = true) :
    (n.kind = .jsxElement → elementParts n ≠ none) ∧ (n.kind = .jsxFragment → fragmentParts n ≠ none) := by
  unfold PrepEl at hp
  split at hp
  · exact ⟨fun _ => by simp [elementParts], fun h => by simp [Node.kind] at h⟩
  · exact ⟨fun h => by simp [Node.kind] at h, fun _ => by simp [fragmentParts]⟩
  · cases hp

theorem PrepAttr_attr {a nameN v : Node} (hp : PrepAttr a = true) (h : attrParts a = some (nameN, v)) :
    (isDirectiveAttrName (attrNameOf nameN) = true → ValOk v = true) ∧
    (¬isDirectiveAttrName (attrNameOf nameN) = true →
      ((v.kind = .jsxElement ∨ v.kind = .jsxFragment) → PrepEl v = true) ∧
      (v.kind ≠ .jsxElement → v.kind ≠ .jsxFragment → StrictValOk v = true)) := by
  obtain ⟨as, rfl⟩ := attrParts_some h
  unfold PrepAttr at hp
  refine ⟨fun hd => by rwa [if_pos hd] at hp, fun hd => ?_⟩
  rw [if_neg hd] at hp
  split at hp
  · exact ⟨fun _ => hp, fun h => absurd rfl h⟩
  · exact ⟨fun _ => hp, fun _ h => absurd rfl h⟩
  · next h1 h2 =>
    exact ⟨fun hk => hk.elim (absurd · (Node.kind_ne_of h1)) (absurd · (Node.kind_ne_of h2)), fun _ _ => hp⟩

theorem PrepAttr_spread {a e : Node} (hp : PrepAttr a = true) (h : spreadPart a = some e) : NoJsx e = true := by
  obtain ⟨as, rfl⟩ := spreadPart_some h
  simpa [PrepAttr] using hp

theorem AttrOk_of_prep {a : Node} {l : Option Node} (hp : PrepAttr a = true) (hl : optOk l = true)
    (h : ∀ nameN v, attrParts a = some (nameN, v) → ¬isDirectiveAttrName (attrNameOf nameN) = true →
      l.isSome = true ∨ StrictValOk v = true) : AttrOk a l :=
  ⟨hl, fun nameN v hpa => ⟨(PrepAttr_attr hp hpa).1, h nameN v hpa⟩, fun _ => PrepAttr_spread hp⟩

theorem hintArgs_NoJsx (o : Opts) (args : List Node) (ar : AttrsResult) (h : NoJsxL args = true) : NoJsxL (hintArgs o args ar) = true := by
  unfold hintArgs
  cases ar.dynamicProps <;> simp [apply_ite NoJsxL, h, NoJsxL_map]

/-- `h`, about THIS list, is the induction hypothesis inside the walk. -/
theorem transformAttrs_ok_of {o : Opts} {env : Env} {attrs : List Node}
    (h : ∀ c acc st, AccOk acc → StOk st → AccOk (trAttrs o env c attrs acc st).1 ∧ StOk (trAttrs o env c attrs acc st).2)
    (c : Bool) (st : St) (hst : StOk st) : ArOk (transformAttrs o env attrs c st).1 ∧ StOk (transformAttrs o env attrs c st).2 := by
  cases attrs with
  | nil =>
    rw [transformAttrs_nil]
    exact ⟨⟨nj_null, rfl, nofun⟩, hst⟩
  | cons a rest =>
    have hacc := h c {} st ⟨rfl, rfl, rfl, by simp⟩ hst
    rw [transformAttrs_cons]
    have hexpr := assembleProps_ok o _ _ _ hacc.1.props hacc.1.mergeArgs hacc.2
    exact ⟨⟨hexpr.1, hacc.1.slots, hacc.1.dirs⟩, hexpr.2⟩

theorem PrepKid_view {c : Node} (hp : PrepKid c = true) :
    match childView c with
    | .expr e | .spread e => NoJsx e = true
    | .element => c.kind = .jsxElement ∧ PrepEl c = true
    | .fragment => c.kind = .jsxFragment ∧ PrepEl c = true
    | _ => True := by
  fun_cases childView c
  case case3 =>
    unfold PrepKid at hp
    simp_all
  case case4 => simpa [PrepKid] using hp
  case case5 | case6 => exact ⟨rfl, by simpa [PrepKid] using hp⟩
  all_goals trivial

theorem lowering_ok (o : Opts) (env : Env) :
    (∀ n st, PrepEl n = true → n.kind = .jsxElement → StOk st →
      NoJsx (trElement o env n st).1 = true ∧ StOk (trElement o env n st).2) ∧
    (∀ n st, PrepEl n = true → n.kind = .jsxFragment → StOk st →
      NoJsx (trFragment o env n st).1 = true ∧ StOk (trFragment o env n st).2) ∧
    (∀ attrs c acc st, PrepAttrs attrs = true → AccOk acc → StOk st →
      AccOk (trAttrs o env c attrs acc st).1 ∧ StOk (trAttrs o env c attrs acc st).2) ∧
    (∀ cs st, PrepKids cs = true → StOk st → NoJsxL (trChildList o env cs st).1 = true ∧ StOk (trChildList o env cs st).2) := by
  apply lowering_induct
  case elem =>
    intro n nameN attrs children he ihA ihK st hp _ hst
    obtain ⟨ptag, pattrs, pkids⟩ := PrepEl_element he hp
    rw [trElement_eq, he]
    simp only [elementCore]
    have har := transformAttrs_ok_of (fun c acc s => ihA c acc s pattrs) (isComponent env nameN) _ (pushFlag_ok o st hst)
    have htag := transformTag_ok env nameN _ ptag har.2
    have helems := ihK _ pkids htag.2
    generalize trChildList o env children _ = elems at helems ⊢
    have hkids := finishChildren_ok o elems.1 (isComponent env nameN) _ (popFlag o elems.2).1 _ helems.1 har.1.slots
      (popFlag_ok o _ helems.2)
    have hpragma := getPragma_ok o _ hkids.2
    refine ite_cases (P := fun r : Node × St => NoJsx r.1 = true ∧ StOk r.2)
      ⟨by simp [hpragma.1, hintArgs_NoJsx, htag.1, har.1.attrs, hkids.1], hpragma.2⟩ ?_
    have hwd := importFromVue_ok _ "withDirectives" hpragma.2
    have hentries := dirEntries_ok nameN attrs _ _ har.1.dirs hwd.2
    exact ⟨by simp [hwd.1, hpragma.1, hintArgs_NoJsx, htag.1, har.1.attrs, hkids.1, hentries.1], hentries.2⟩
  case notElem => intro n he st hp hk _; exact absurd he ((PrepEl_parts hp).1 hk)
  case frag =>
    intro n children hf ihK st hp _ hst
    rw [trFragment_eq, hf]
    simp only [fragmentCore]
    have hpragma := getPragma_ok o _ (pushFlag_ok o st hst)
    have hfrag := importFromVue_ok _ FRAGMENT hpragma.2
    have helems := ihK _ (PrepEl_fragment hf hp) hfrag.2
    generalize trChildList o env children _ = elems at helems ⊢
    have hkids := finishChildren_ok o elems.1 false none (popFlag o elems.2).1 _ helems.1 rfl (popFlag_ok o _ helems.2)
    exact ⟨by simp [hpragma.1, hfrag.1, hkids.1], hkids.2⟩
  case notFrag => intro n hf st hp hk _; exact absurd hf ((PrepEl_parts hp).2 hk)
  case anil => intro c acc st _ hacc hst; rw [trAttrs_nil]; exact ⟨hacc, hst⟩
  case acons =>
    intro a rest ihV ih c acc st hp hacc hst
    simp only [PrepAttrs, Bool.and_eq_true] at hp
    rw [trAttrs_cons]
    -- nothing lowered: `PrepAttr` gives `StrictValOk`; an element / fragment lowered: `ihV` gives `NoJsx`
    have hlow : StOk (lowerAttr o env a st).2 ∧ AttrOk a (lowerAttr o env a st).1 := by
      rcases lowerAttr_cases o env a st with ⟨hnone, hnot⟩ | ⟨nameN, v, hpa, hnd, hcase⟩
      · rw [hnone]
        refine ⟨hst, AttrOk_of_prep hp.1 rfl fun nameN v hpa hnd => .inr ?_⟩
        obtain ⟨hne, hnf⟩ := hnot nameN v hpa hnd
        exact ((PrepAttr_attr hp.1 hpa).2 hnd).2 hne hnf
      · have hprep := ((PrepAttr_attr hp.1 hpa).2 hnd).1
        have lowered : ∀ r : Node × St, NoJsx r.1 = true ∧ StOk r.2 → StOk (some r.1, r.2).2 ∧ AttrOk a (some r.1, r.2).1 :=
          fun r hr => ⟨hr.2, AttrOk_of_prep hp.1 hr.1 fun _ _ _ _ => .inl rfl⟩
        rcases hcase with ⟨hk, helem⟩ | ⟨hk, hfrag⟩
        · rw [helem]; exact lowered _ ((ihV nameN v hpa).1 st (hprep (.inl hk)) hk hst)
        · rw [hfrag]; exact lowered _ ((ihV nameN v hpa).2 st (hprep (.inr hk)) hk hst)
    have hstep := attrStep_ok o c a _ acc _ hlow.2 hacc hlow.1
    exact ih c _ _ hp.2 hstep.1 hstep.2
  case knil => intro st _ hst; rw [trChildList_nil]; exact ⟨rfl, hst⟩
  case kcons =>
    intro c rest ihE ihF ih st hp hst
    simp only [PrepKids, Bool.and_eq_true] at hp
    have hv := PrepKid_view hp.1
    have consOk : ∀ (x : Node) s, NoJsx x = true → StOk s →
        NoJsxL (x :: (trChildList o env rest s).1) = true ∧ StOk (trChildList o env rest s).2 :=
      fun x s hx hs => ⟨by simp [hx, (ih s hp.2 hs).1], (ih s hp.2 hs).2⟩
    rw [trChildList_cons]
    generalize childView c = v at hv ⊢
    cases v
    case text t =>
      have hctv := importFromVue_ok st "createTextVNode" hst
      refine ite_cases (P := fun r : List Node × St => NoJsxL r.1 = true ∧ StOk r.2) ?blank ?nonblank
      case blank => exact ih st hp.2 hst
      case nonblank => exact consOk _ _ (by simp [hctv.1]) hctv.2
    case empty => exact ih st hp.2 hst
    case expr e | spread e => exact consOk _ _ (by simpa using hv) (fillIfBound_ok o _ st hst)
    case element =>
      have hE := ihE st hv.2 hv.1 hst
      exact consOk _ _ (by simpa using hE.1) hE.2
    case fragment =>
      have hF := ihF st hv.2 hv.1 hst
      exact consOk _ _ (by simpa using hF.1) hF.2
    case bad => exact ⟨(ih st hp.2 hst).1, panic_ok (ih st hp.2 hst).2⟩

theorem trElement_ok (o : Opts) (env : Env) : ∀ (n : Node) (st : St), PrepEl n = true → n.kind = .jsxElement → StOk st →
    NoJsx (trElement o env n st).1 = true ∧ StOk (trElement o env n st).2 := (lowering_ok o env).1
theorem trFragment_ok (o : Opts) (env : Env) : ∀ (n : Node) (st : St), PrepEl n = true → n.kind = .jsxFragment → StOk st →
    NoJsx (trFragment o env n st).1 = true ∧ StOk (trFragment o env n st).2 := (lowering_ok o env).2.1
theorem trAttrs_ok (o : Opts) (env : Env) (c : Bool) : ∀ (attrs : List Node) (acc : AttrAcc) (st : St),
    PrepAttrs attrs = true → AccOk acc → StOk st →
    AccOk (trAttrs o env c attrs acc st).1 ∧ StOk (trAttrs o env c attrs acc st).2 := fun attrs => (lowering_ok o env).2.2.1 attrs c
theorem transformAttrs_ok (o : Opts) (env : Env) : ∀ (attrs : List Node) (c : Bool) (st : St), PrepAttrs attrs = true → StOk st →
    ArOk (transformAttrs o env attrs c st).1 ∧ StOk (transformAttrs o env attrs c st).2 :=
  fun attrs c st hp => transformAttrs_ok_of (fun c acc s => trAttrs_ok o env c attrs acc s hp) c st
theorem trChildList_ok (o : Opts) (env : Env) : ∀ (cs : List Node) (st : St), PrepKids cs = true → StOk st →
    NoJsxL (trChildList o env cs st).1 = true ∧ StOk (trChildList o env cs st).2 := (lowering_ok o env).2.2.2

end VueJsx
