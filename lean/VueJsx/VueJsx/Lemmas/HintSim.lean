/-
  HintSim: simulation lemmas for C12.  Running a function of the model on `HintRel`-related inputs in similar states (`StSim`)
  gives related results and similar states (`Sim`).  Holds `StSim`, `Sim` with the state updates that keep them, a congruence
  `rel_n…` per node constructor of Base, and the directive parsers up to `parseDirective_rel`.

  Options in a `_rel` statement: a function that branches on `optimize` has `{ o with optimize := true }` on the left and
  `{ o with optimize := false }` on the right; one that does not read it (`attrStep`, `assembleProps` and what they call) has
  one `o` on both sides, and `C12_attrs_blind` / `C12_assemble_blind` bring the two records to `o` where it is used.
  `pushFlag_rel`, `popFlag_rel` (HintElement) hold for any `o1 o2`: they write the slot-flag stack alone, which `StSim`
  leaves free (`StSim.stack`).
-/
import VueJsx.Lemmas.HintDecisions

namespace VueJsx

/-- every field of the visitor state except the slot-flag stack (only `optimize` touches it), the pending `const` declarations
    (related, not equal) and `typeGaveUp` (read by the type resolution alone, which nothing here calls: it need not agree) -/
def St.core (s : St) :=
  (s.imports, s.transformOnHelper, s.defineComponent, s.interfaces, s.typeAliases, s.pragma, s.slotHelper, s.injectingVars,
   s.slotCounter, s.assignmentLeft, s.diags, s.gen, s.panicked)

def StSim (s1 s2 : St) : Prop := s1.core = s2.core ∧ HintRelL s1.injectingConsts s2.injectingConsts

theorem StSim.refl (s : St) : StSim s s := ⟨rfl, HintRelL.refl _⟩

/-- A `def`, not a structure: it is the conjunction itself, so it meets the statements that write the conjunction out
    without conversion.  (`show Sim R _ _` opens a proof for `rel_ite`, which must see the goal as one `R x y`.) -/
def Sim {α : Type} (R : α → α → Prop) (r1 r2 : α × St) : Prop := R r1.1 r2.1 ∧ StSim r1.2 r2.2

/-- Rewriting with this equation turns a goal about two states into a goal about one, which `StSim.of_eq` closes by `rfl`
    whatever the function did to the other fields. -/
theorem StSim.eq {s1 s2 : St} (h : StSim s1 s2) :
    s1 = { s2 with slotFlagStack := s1.slotFlagStack, injectingConsts := s1.injectingConsts, typeGaveUp := s1.typeGaveUp } := by
  have hc := h.1
  cases s1; cases s2
  simp only [St.core, Prod.mk.injEq] at hc
  simp only [hc]

theorem StSim.of_eq {s1 s2 : St} {x : List Nat} {c : List Node} {g : Bool} (hl : HintRelL c s2.injectingConsts)
    (h : s1 = { s2 with slotFlagStack := x, injectingConsts := c, typeGaveUp := g } := by rfl) : StSim s1 s2 := by
  subst h; exact ⟨rfl, hl⟩

/-- (`hf`: by `rfl` for any `f` that reads none of the three free fields, as in `h.same St.pragma`) -/
theorem StSim.same {α : Type} {s1 s2 : St} (h : StSim s1 s2) (f : St → α)
    (hf : f { s2 with slotFlagStack := s1.slotFlagStack, injectingConsts := s1.injectingConsts, typeGaveUp := s1.typeGaveUp } = f s2 := by rfl) :
    f s1 = f s2 := by
  rw [h.eq]; exact hf

theorem StSim.err {s1 s2 : St} (h : StSim s1 s2) (m : String) : StSim (s1.err m) (s2.err m) := by
  rw [h.eq]; exact .of_eq h.2

theorem StSim.panic {s1 s2 : St} (h : StSim s1 s2) (m : String) : StSim (s1.panic m) (s2.panic m) := by
  rw [h.eq]; unfold St.panic; dsimp only; split <;> exact .of_eq h.2

theorem StSim.setLeft {s1 s2 : St} (h : StSim s1 s2) (x : Option Node) :
    StSim { s1 with assignmentLeft := x } { s2 with assignmentLeft := x } := by
  rw [h.eq]; exact .of_eq h.2

theorem StSim.stack {s1 s2 : St} (h : StSim s1 s2) (x y : List Nat) :
    StSim { s1 with slotFlagStack := x } { s2 with slotFlagStack := y } := by
  rw [h.eq]; exact .of_eq h.2

theorem StSim.setDc {s1 s2 : St} (h : StSim s1 s2) (x : Option String) :
    StSim { s1 with defineComponent := x } { s2 with defineComponent := x } := by
  rw [h.eq]; exact .of_eq h.2

theorem StSim.pushConst {s1 s2 : St} (h : StSim s1 s2) {d1 d2 : Node} (hd : HintRel d1 d2) :
    StSim { s1 with injectingConsts := s1.injectingConsts ++ [d1] } { s2 with injectingConsts := s2.injectingConsts ++ [d2] } := by
  rw [h.eq]; exact .of_eq (h.2.snoc hd)

theorem StSim.restore {t1 t2 s1 s2 : St} (ht : StSim t1 t2) (hs : StSim s1 s2) :
    StSim { t1 with injectingConsts := s1.injectingConsts, injectingVars := s1.injectingVars }
          { t2 with injectingConsts := s2.injectingConsts, injectingVars := s2.injectingVars } := by
  rw [ht.eq, hs.eq]; exact .of_eq hs.2

theorem StSim.restoreAppend {t1 t2 s1 s2 : St} (ht : StSim t1 t2) (hs : StSim s1 s2) :
    StSim { t1 with injectingConsts := s1.injectingConsts ++ t1.injectingConsts, injectingVars := s1.injectingVars ++ t1.injectingVars }
          { t2 with injectingConsts := s2.injectingConsts ++ t2.injectingConsts, injectingVars := s2.injectingVars ++ t2.injectingVars } := by
  rw [ht.eq, hs.eq]; exact .of_eq (hs.2.append ht.2)

theorem StSim.fields {s1 s2 : St} (h : StSim s1 s2) :
    s1.imports = s2.imports ∧ s1.transformOnHelper = s2.transformOnHelper ∧ s1.pragma = s2.pragma ∧ s1.slotHelper = s2.slotHelper ∧
    s1.injectingVars = s2.injectingVars ∧ s1.slotCounter = s2.slotCounter ∧ s1.assignmentLeft = s2.assignmentLeft ∧ s1.gen = s2.gen ∧
    s1.diags = s2.diags ∧ s1.panicked = s2.panicked ∧ s1.defineComponent = s2.defineComponent :=
  ⟨h.same St.imports, h.same St.transformOnHelper, h.same St.pragma, h.same St.slotHelper, h.same St.injectingVars,
    h.same St.slotCounter, h.same St.assignmentLeft, h.same St.gen, h.same St.diags, h.same St.panicked, h.same St.defineComponent⟩

theorem StSim.fresh {s1 s2 : St} (h : StSim s1 s2) (n : String) :
    (s1.fresh n).1 = (s2.fresh n).1 ∧ StSim (s1.fresh n).2 (s2.fresh n).2 := by
  rw [h.eq]; exact ⟨rfl, .of_eq h.2⟩

theorem StSim.importFromVue {s1 s2 : St} (h : StSim s1 s2) (item : String) :
    (s1.importFromVue item).1 = (s2.importFromVue item).1 ∧ StSim (s1.importFromVue item).2 (s2.importFromVue item).2 := by
  rw [h.eq]; unfold St.importFromVue; dsimp only; split <;> exact ⟨rfl, .of_eq h.2⟩

theorem rel_nStr (s : String) : HintRel (nStr s) (nStr s) := HintRel.refl _
theorem rel_nVoid0 : HintRel nVoid0 nVoid0 := HintRel.refl _
theorem rel_nNull : HintRel nNull nNull := HintRel.refl _

theorem rel_nArg {a b : Node} (h : HintRel a b) : HintRel (nArg a) (nArg b) := .node _ _ (.cons h .nil)

theorem rel_nSpreadArg {a b : Node} (h : HintRel a b) : HintRel (nSpreadArg a) (nSpreadArg b) := .node _ _ (.cons h .nil)

theorem rel_nSpreadElement {a b : Node} (h : HintRel a b) : HintRel (nSpreadElement a) (nSpreadElement b) := .node _ _ (.cons h .nil)

theorem rel_nComputed {a b : Node} (h : HintRel a b) : HintRel (nComputed a) (nComputed b) := .node _ _ (.cons h .nil)

theorem rel_nKV {k1 k2 v1 v2 : Node} (hk : HintRel k1 k2) (hv : HintRel v1 v2) : HintRel (nKV k1 v1) (nKV k2 v2) :=
  .node _ _ (.cons hk (.cons hv .nil))

theorem rel_nList {a b : List Node} (h : HintRelL a b) : HintRel (nList a) (nList b) := .node _ _ h

theorem rel_nObject {a b : List Node} (h : HintRelL a b) : HintRel (nObject a) (nObject b) := .node _ _ (.cons (rel_nList h) .nil)

theorem rel_nArray {a b : List Node} (h : HintRelL a b) : HintRel (nArray a) (nArray b) := .node _ _ (.cons (rel_nList h) .nil)

theorem rel_nCall (f : Node) {a b : List Node} (h : HintRelL a b) : HintRel (nCall f a) (nCall f b) :=
  .node _ _ (.cons (HintRel.refl f) (.cons (rel_nList h) (.cons (HintRel.refl _) .nil)))

theorem rel_nBin (op : String) {a1 a2 b1 b2 : Node} (ha : HintRel a1 a2) (hb : HintRel b1 b2) : HintRel (nBin op a1 b1) (nBin op a2 b2) :=
  .node _ _ (.cons ha (.cons hb .nil))

theorem rel_nCond {t1 t2 c1 c2 a1 a2 : Node} (ht : HintRel t1 t2) (hc : HintRel c1 c2) (ha : HintRel a1 a2) :
    HintRel (nCond t1 c1 a1) (nCond t2 c2 a2) := .node _ _ (.cons ht (.cons hc (.cons ha .nil)))

theorem rel_nAssignParen {t1 t2 v1 v2 : Node} (ht : HintRel t1 t2) (hv : HintRel v1 v2) :
    HintRel (nAssignParen t1 v1) (nAssignParen t2 v2) := .node _ _ (.cons (.node _ _ (.cons ht .nil)) (.cons hv .nil))

theorem rel_nArrow (ps : List Node) {b1 b2 : Node} (hb : HintRel b1 b2) : HintRel (nArrow ps b1) (nArrow ps b2) :=
  .node _ _ (.cons (HintRel.refl _) (.cons hb (.cons (HintRel.refl _) (.cons (HintRel.refl _) .nil))))

theorem rel_nBlock {a b : List Node} (h : HintRelL a b) : HintRel (nBlock a) (nBlock b) :=
  .node _ _ (.cons (.node _ _ h) .nil)

theorem rel_nReturn {a b : Node} (h : HintRel a b) : HintRel (nReturn a) (nReturn b) := .node _ _ (.cons h .nil)

theorem rel_nVarDecl (kind : String) {d1 d2 : List Node} (h : HintRelL d1 d2) : HintRel (nVarDecl kind d1) (nVarDecl kind d2) :=
  .node _ _ (.cons (rel_nList h) .nil)

theorem rel_nModelListener {t1 t2 : Node} (h : HintRel t1 t2) : HintRel (nModelListener t1) (nModelListener t2) :=
  rel_nArrow _ (rel_nAssignParen h (HintRel.refl _))

theorem HintRelL.mapArg {a b : List Node} (h : HintRelL a b) : HintRelL (a.map nArg) (b.map nArg) := by
  induction h using HintRelL.induct with
  | nil => exact .nil
  | cons hx _ ih => exact .cons (rel_nArg hx) ih

theorem spreadEntries_rel {e1 e2 : Node} (he : HintRel e1 e2) : HintRelL (spreadEntries e1) (spreadEntries e2) := by
  unfold spreadEntries
  rcases objLitParts_rel he with ⟨g1, g2⟩ | ⟨oas, las, p1, p2, g1, g2, hp⟩
  · rw [g1, g2]; exact .cons (rel_nSpreadElement he) .nil
  · rw [g1, g2]; exact hp

theorem vHtmlOrText_rel (w : String) {v1 v2 : Node} (hv : HintRel v1 v2) {s1 s2 : St} (hs : StSim s1 s2) :
    Sim HintRel (vHtmlOrText w v1 s1) (vHtmlOrText w v2 s2) := by
  rw [vHtmlOrText_eq, vHtmlOrText_eq, hv.kind]
  split
  · exact ⟨hv, hs⟩
  · unfold vHtmlCore
    refine (containerExpr_rel hv).cases ⟨.refl _, hs.err _⟩ fun he => ?_
    dsimp only
    refine (arrayElems_rel he).cases ⟨he, hs⟩ fun hl => ?_
    dsimp only
    exact (plainElem_rel hl 0).cases ⟨he, hs⟩ fun hx => ⟨hx, hs⟩

def DirRel : Dir → Dir → Prop
  | .normal n1 a1 m1 v1, .normal n2 a2 m2 v2 => n1 = n2 ∧ OptRel a1 a2 ∧ m1 = m2 ∧ HintRel v1 v2
  | .text e1, .text e2 => HintRel e1 e2
  | .html e1, .html e2 => HintRel e1 e2
  | .vmodel a1 t1 m1 v1, .vmodel a2 t2 m2 v2 => OptRel a1 a2 ∧ OptRel t1 t2 ∧ m1 = m2 ∧ HintRel v1 v2
  | .slots e1, .slots e2 => OptRel e1 e2
  | _, _ => False

inductive DirsRel : List (String × Option Node × Option Node × Node) → List (String × Option Node × Option Node × Node) → Prop
  | nil : DirsRel [] []
  | cons (n : String) {a1 a2 m1 m2 : Option Node} {v1 v2 : Node} {xs ys} : OptRel a1 a2 → OptRel m1 m2 → HintRel v1 v2 → DirsRel xs ys →
      DirsRel ((n, a1, m1, v1) :: xs) ((n, a2, m2, v2) :: ys)

theorem DirsRel.append {a1 a2 b1 b2} (h1 : DirsRel a1 a2) (h2 : DirsRel b1 b2) : DirsRel (a1 ++ b1) (a2 ++ b2) := by
  induction h1 with
  | nil => exact h2
  | cons n ha hm hv _ ih => exact .cons n ha hm hv ih

theorem DirsRel.isEmpty {a b} (h : DirsRel a b) : a.isEmpty = b.isEmpty := by cases h <;> rfl

def Tup3Rel (t1 t2 : Node × Option Node × Option (List String)) : Prop :=
  HintRel t1.1 t2.1 ∧ OptRel t1.2.1 t2.2.1 ∧ t1.2.2 = t2.2.2

def TupRel (t1 t2 : St × Node × Option Node × Option (List String)) : Prop :=
  StSim t1.1 t2.1 ∧ Tup3Rel t1.2 t2.2

theorem arrayForm_rel {f : Option Node → Option Node} {l1 l2 : List Node} (hl : HintRelL l1 l2) (a : Option Node) (r : List String)
    {v1 v2 : Node} (hv : HintRel v1 v2) : Tup3Rel (arrayForm f l1 a r v1) (arrayForm f l2 a r v2) := by
  unfold arrayForm
  refine (plainElem_rel hl 1).cases ⟨hv, .refl _, rfl⟩ fun {y1 y2} hy => ?_
  dsimp only
  refine (arrayElems_rel hy).cases ?_ fun hm => ⟨hv, .refl _, congrArg some (parseModifiers_rel hm)⟩
  have harg : OptRel (if a.isNone then some y1 else a) (if a.isNone then some y2 else a) := rel_ite hy (.refl a)
  have third : OptRelL ((plainElem l1 2).bind arrayElems) ((plainElem l2 2).bind arrayElems) :=
    (plainElem_rel hl 2).cases trivial fun hz => arrayElems_rel hz
  exact third.cases ⟨hv, harg, rfl⟩ fun hn => ⟨hv, harg, congrArg some (parseModifiers_rel hn)⟩

theorem vmodelFirst_rel {l1 l2 : List Node} (hl : HintRelL l1 l2) {s1 s2 : St} (hs : StSim s1 s2) :
    Sim HintRel (vmodelFirst l1 s1) (vmodelFirst l2 s2) := by
  unfold vmodelFirst
  exact (plainElem_rel hl 0).cases ⟨.refl _, hs.err _⟩ fun hx => ⟨hx, hs⟩

theorem vmodelTuple_rel (c : Bool) {e1 e2 : Node} (he : HintRel e1 e2) (a : Option Node) (r : List String)
    {s1 s2 : St} (hs : StSim s1 s2) : TupRel (vmodelTuple c e1 a r s1) (vmodelTuple c e2 a r s2) := by
  rw [vmodelTuple_array, vmodelTuple_array]
  exact (arrayElems_rel he).cases ⟨hs, he, .refl a, rfl⟩ fun hl =>
    ⟨(vmodelFirst_rel hl hs).2, arrayForm_rel hl a r (vmodelFirst_rel hl hs).1⟩

/-- (the hypothesis stands after the colon so that the `match`es of the statement do not take it along) -/
theorem transformedArg_rel (b : Bool) {a1 a2 : Option Node} : OptRel a1 a2 →
    OptRel (if b then (match a1 with | some a => some a | none => some nVoid0) else a1)
           (if b then (match a2 with | some a => some a | none => some nVoid0) else a2) :=
  fun ha => rel_ite (ha.cases (HintRel.refl _) fun h => h) ha

/-- Assignability is decided by kinds (and the kinds under parentheses / TypeScript wrappers), which related trees share -/
theorem isAssignmentTarget_congr {a b : Node} (h : HintRel a b) : isAssignmentTarget a = isAssignmentTarget b := by
  -- `fun_induction` numbers the cases in the order of the arms: 4, 6 the one-child wrappers, 5, 7, 8 the two-child ones
  fun_induction isAssignmentTarget a generalizing b
  case case9 t h1 h2 h3 h4 h5 h6 h7 h8 =>
    fun_cases isAssignmentTarget b
    · obtain ⟨_, _, _⟩ := h; exact (h1 _ _ rfl).elim
    · obtain ⟨_, _, _⟩ := h; exact (h2 _ _ rfl).elim
    · obtain ⟨_, _, _⟩ := h; exact (h3 _ _ rfl).elim
    · obtain ⟨_, _, _ | ⟨_, ⟨⟩ | _⟩⟩ := h; exact (h4 _ _ rfl).elim
    · obtain ⟨_, _, _ | ⟨_, _ | ⟨_, ⟨⟩ | _⟩⟩⟩ := h; exact (h5 _ _ _ rfl).elim
    · obtain ⟨_, _, _ | ⟨_, ⟨⟩ | _⟩⟩ := h; exact (h6 _ _ rfl).elim
    · obtain ⟨_, _, _ | ⟨_, _ | ⟨_, ⟨⟩ | _⟩⟩⟩ := h; exact (h7 _ _ _ rfl).elim
    · obtain ⟨_, _, _ | ⟨_, _ | ⟨_, ⟨⟩ | _⟩⟩⟩ := h; exact (h8 _ _ _ rfl).elim
    · rfl
  case case4 ih | case6 ih =>
    obtain ⟨_, _, _ | ⟨he, ⟨⟩ | _⟩⟩ := h
    simpa only [isAssignmentTarget] using ih he
  case case5 ih | case7 ih | case8 ih =>
    obtain ⟨_, _, _ | ⟨he, _ | ⟨_, ⟨⟩ | _⟩⟩⟩ := h
    simpa only [isAssignmentTarget] using ih he
  case case1 | case2 | case3 => obtain ⟨_, _, _⟩ := h; simp only [isAssignmentTarget]

/-- (bound unused: see `isAssignmentTarget_congr`) -/
theorem isAssignmentTarget_rel : ∀ (n : Nat) (a b : Node), sizeOf a ≤ n → HintRel a b → isAssignmentTarget a = isAssignmentTarget b :=
  fun _ _ _ _ h => isAssignmentTarget_congr h

theorem vmodelFinish_rel (c : Bool) : ∀ {t1 t2 : St × Node × Option Node × Option (List String)}, TupRel t1 t2 →
    Sim DirRel (vmodelFinish c t1) (vmodelFinish c t2)
  | (_, _, _, _), (_, v2, _, _), ⟨hs, hv, ha, hm⟩ => by
    cases hm
    unfold vmodelFinish
    dsimp only
    rw [isAssignmentTarget_congr hv]
    cases isAssignmentTarget v2
    · exact ⟨⟨ha, transformedArg_rel _ ha, rfl, .refl _⟩, hs.err _⟩
    · exact ⟨⟨ha, transformedArg_rel _ ha, rfl, hv⟩, hs⟩

theorem parseVModel_rel {v1 v2 : Node} (hv : HintRel v1 v2) (c : Bool) (a : Option Node) (r : List String)
    {s1 s2 : St} (hs : StSim s1 s2) : Sim DirRel (parseVModel v1 c a r s1) (parseVModel v2 c a r s2) := by
  rw [parseVModel_eq, parseVModel_eq]
  apply vmodelFinish_rel
  exact (containerExpr_rel hv).cases (vmodelTuple_rel c (.refl _) a r (hs.err _)) fun he => vmodelTuple_rel c he a r hs

theorem normalTuple_rel {v1 v2 : Node} (hv : HintRel v1 v2) (a : Option Node) (r : List String) :
    Tup3Rel (normalTuple v1 a r) (normalTuple v2 a r) := by
  rw [normalTuple_array, normalTuple_array, hv.kind]
  refine (containerExpr_rel hv).cases ⟨?_, OptRel.refl a, rfl⟩ fun he => ?_
  · exact rel_ite hv (.refl _)
  · dsimp only
    refine (arrayElems_rel he).cases ⟨he, OptRel.refl a, rfl⟩ fun hl => ?_
    exact arrayForm_rel hl a r ((plainElem_rel hl 0).cases (.refl _) fun hx => hx)

theorem normalFinish_rel (d : String) : ∀ {t1 t2 : Node × Option Node × Option (List String)}, Tup3Rel t1 t2 →
    DirRel (normalFinish d t1) (normalFinish d t2)
  | (_, _, _), (_, _, _), ⟨hv, ha, hm⟩ => by cases hm; exact ⟨rfl, transformedArg_rel _ ha, rfl, hv⟩

theorem parseDirective_rel (name : AttrName) {v1 v2 : Node} (hv : HintRel v1 v2) (c : Bool) {s1 s2 : St} (hs : StSim s1 s2) :
    DirRel (parseDirective name v1 c s1).1 (parseDirective name v2 c s2).1 ∧
      StSim (parseDirective name v1 c s1).2 (parseDirective name v2 c s2).2 := by
  rw [parseDirective_eq, parseDirective_eq]
  show Sim DirRel _ _
  exact rel_ite (vHtmlOrText_rel "html" hv hs) <| rel_ite (vHtmlOrText_rel "text" hv hs) <|
    rel_ite (parseVModel_rel hv c _ _ hs) <|
    rel_ite ⟨containerExpr_rel hv, hs⟩ ⟨normalFinish_rel _ (normalTuple_rel hv _ _), hs⟩

end VueJsx
