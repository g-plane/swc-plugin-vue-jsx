/-
  The text cleaner is a pipeline: tabs to spaces, split into lines, trim the lines by position, drop the empty ones, join
  with one space.  Only the splitter looks at line breaks and only the later stages look at spaces, so each stage has one
  lemma saying what it does to the text once spaces are disregarded (`filter p` with `p ' ' = false`); `filter_cleanText`
  composes them.
-/
import VueJsx.Text

namespace VueJsx.Text

-- `isBreak`, `isJsxWs`, `notWs` are vocabulary of the statements of C02, not part of the model.
/-- LF and CR only, as JSX has it: not the LS / PS that `isLineTerm` also accepts -/
def isBreak (c : Char) : Bool := c == '\n' || c == '\r'
def isJsxWs (c : Char) : Bool := c == ' ' || c == '\t' || c == '\n' || c == '\r'

def notWs (c : Char) : Bool := !isJsxWs c

theorem filter_dropLeading {p : Char → Bool} {c : Char} (hp : p c = false) (l : List Char) : (dropLeading c l).filter p = l.filter p := by
  fun_induction dropLeading c l <;> simp_all

theorem flatten_consHead (x : Char) (ls : List (List Char)) : (consHead x ls).flatten = x :: ls.flatten := by
  cases ls <;> rfl

theorem splitAux_cons {x : Char} (hx : isBreak x = false) (b : Bool) (xs : List Char) :
    splitAux b (x :: xs) = consHead x (splitAux false xs) := by
  simp only [isBreak, Bool.or_eq_false_iff] at hx
  simp [splitAux, hx.1, hx.2]

theorem flatten_splitAux (b : Bool) (s : List Char) : (splitAux b s).flatten = s.filter (fun c => !isBreak c) := by
  -- after a CR the LF adds no line; a character that is no break goes to the head of the first line (`flatten_consHead`)
  fun_induction splitAux b s <;> simp_all [isBreak, flatten_consHead]

theorem map_consHead (f : Char → Char) (x : Char) (ls : List (List Char)) :
    (consHead x ls).map (List.map f) = consHead (f x) (ls.map (List.map f)) := by
  cases ls <;> rfl

theorem splitAux_map_tab (b : Bool) (s : List Char) :
    splitAux b (s.map tabToSpace) = (splitAux b s).map (List.map tabToSpace) := by
  induction s generalizing b with
  | nil => rfl
  | cons x xs ih =>
    -- a break is no tab: both sides step alike, by computation
    by_cases hn : x = '\n'
    · subst hn; cases b
      · exact congrArg ([] :: ·) (ih false)
      · exact ih false
    by_cases hr : x = '\r'
    · subst hr; exact congrArg ([] :: ·) (ih true)
    have hx : isBreak x = false := by simp [isBreak, hn, hr]
    have hb : isBreak (tabToSpace x) = false := by
      unfold tabToSpace; split
      · rfl
      · exact hx
    rw [List.map_cons, splitAux_cons hb, ih, splitAux_cons hx, map_consHead]

theorem filter_trimLine {p : Char → Bool} (hp : p ' ' = false) (a b : Bool) (l : List Char) : (trimLine a b l).filter p = l.filter p := by
  cases a <;> cases b <;> simp [trimLine, dropTrailing, filter_dropLeading hp]

theorem filter_flatten_trimLines {p : Char → Bool} (hp : p ' ' = false) (b : Bool) (ls : List (List Char)) :
    (trimLines b ls).flatten.filter p = ls.flatten.filter p := by
  fun_induction trimLines b ls <;> simp_all [filter_trimLine hp]

theorem filter_joinSp {p : Char → Bool} (hp : p ' ' = false) (ls : List (List Char)) : (joinSp ls).filter p = ls.flatten.filter p := by
  fun_induction joinSp ls <;> simp_all

/-- Apart from spaces, the cleaned text is the text without its line breaks, tabs as spaces. -/
theorem filter_cleanText {p : Char → Bool} (hp : p ' ' = false) (s : List Char) :
    (cleanText s).filter p = ((s.map tabToSpace).filter (fun c => !isBreak c)).filter p := by
  rw [cleanText, filter_joinSp hp, List.flatten_filter_not_isEmpty, filter_flatten_trimLines hp, splitLines, flatten_splitAux]

end VueJsx.Text

namespace VueJsx
open Text

def noBreak (l : List Char) : Prop := ∀ c ∈ l, isBreak c = false

theorem splitAux_no_break (b : Bool) (s : List Char) (h : noBreak s) : splitAux b s = [s] := by
  induction s generalizing b with
  | nil => rfl
  | cons x xs ih =>
    rw [splitAux_cons (h x (by simp)), ih _ (fun c hc => h c (by simp [hc]))]; rfl

theorem splitAux_true {s : List Char} (h : s.head? ≠ some '\n') : splitAux true s = splitAux false s := by
  cases s with
  | nil => rfl
  | cons x xs =>
    have : (x == '\n') = false := by simpa using h
    simp [splitAux, this]

/-- a break closes the line `l`; after a CR the scanner is in the state that takes a following LF as part of it -/
theorem splitAux_line {l : List Char} (hl : noBreak l) {x : Char} (hx : isBreak x = true) (t : List Char) :
    splitAux false (l ++ x :: t) = l :: splitAux (x == '\r') t := by
  induction l with
  | nil =>
    simp only [isBreak, Bool.or_eq_true, beq_iff_eq] at hx
    rcases hx with rfl | rfl <;> rfl
  | cons y ys ih =>
    rw [List.cons_append, splitAux_cons (hl y (by simp)), ih (fun c hc => hl c (by simp [hc]))]; rfl

/-- the JSX rule on a text given as its lines: tabs as spaces, position-dependent trimming, whitespace-only
    lines dropped, the rest joined by one space - in the model's own `tabToSpace`, `trimLines`, `joinSp` -/
def jsxRule (lines : List (List Char)) : List Char :=
  joinSp ((trimLines true (lines.map (List.map tabToSpace))).filter (fun l => !l.isEmpty))

theorem cleanText_eq_jsxRule (s : List Char) : cleanText s = jsxRule (splitLines s) := by
  rw [cleanText, jsxRule, splitLines, splitLines, splitAux_map_tab]

end VueJsx
