/-
  `directive.rs` read as compositions: the stages of `parseVModel` and `parseDirective` as functions of their own, with
  the equations that say so.
-/
import VueJsx.Directive
import VueJsx.Lemmas.Basic

namespace VueJsx

theorem containerExpr_of_expr {e : Node} {cas : List String} (hne : ∀ a k, e ≠ .mk .jsxEmpty a k) :
    containerExpr (.mk .jsxExprContainer cas [e]) = some e := by
  unfold containerExpr
  dsimp only
  split
  · exact absurd rfl (hne _ _)
  · rfl

def strArgOf : Node → Option String
  | .mk .arg _ [.mk .str (s :: _) _] => some s
  | _ => none

theorem parseModifiers_eq (elems : List Node) : parseModifiers elems = setOfList (elems.filterMap strArgOf) := rfl

def vHtmlCore (what : String) (c : Option Node) (st : St) : Node × St :=
  match c with
  | some e =>
    match arrayElems e with
    | some elems =>
      match plainElem elems 0 with
      | some first => (first, st)
      | none => (e, st)
    | none => (e, st)
  | none => (nBool true, st.err ("Error: You have to use JSX Expression inside your `v-" ++ what ++ "`."))

theorem vHtmlOrText_eq (w : String) (v : Node) (st : St) :
    vHtmlOrText w v st = if v.kind = .str then (v, st) else vHtmlCore w (containerExpr v) st := by
  unfold vHtmlOrText vHtmlCore
  split
  · rfl
  · rename_i hne
    rw [if_neg (Node.kind_ne_of hne)]
    rfl

/-- the array form `[value, argument?, modifiers?]` once its first element `v` is known; `fix` is what happens to an
    argument that the array does not supply (`v-model` on a component passes `null`) -/
def arrayForm (fix : Option Node → Option Node) (elems : List Node) (argument : Option Node) (rest : List String) (v : Node) :
    Node × Option Node × Option (List String) :=
  match plainElem elems 1 with
  | some second =>
    match arrayElems second with
    | some mods => (v, fix argument, some (parseModifiers mods))
    | none =>
      match (plainElem elems 2).bind arrayElems with
      | some mods => (v, if argument.isNone then some second else argument, some (parseModifiers mods))
      | none => (v, if argument.isNone then some second else argument, some (setOfList rest))
  | none => (v, fix argument, some (setOfList rest))

def vmodelFirst (elems : List Node) (st : St) : Node × St :=
  match plainElem elems 0 with
  | some v => (v, st)
  | none => (nEmptyIdent, st.err "Error: The first element of the `v-model` array must be the bound expression.")

/-- `parseVModel`'s middle stage verbatim, so that `parseVModel_eq` is `rfl` by cases; read it through `vmodelTuple_array` -/
def vmodelTuple (isComponent : Bool) (attrValue : Node) (argument : Option Node) (rest : List String) (st : St) :
    St × Node × Option Node × Option (List String) :=
  let nullArg (a : Option Node) : Option Node := if isComponent && a.isNone then some nNull else a
  match arrayElems attrValue with
  | some elems =>
    let (v, st) : Node × St :=
      match plainElem elems 0 with
      | some v => (v, st)
      | none => (nEmptyIdent, st.err "Error: The first element of the `v-model` array must be the bound expression.")
    match plainElem elems 1 with
    | some second =>
      match arrayElems second with
      | some mods => (st, v, nullArg argument, some (parseModifiers mods))
      | none =>
        let argument := if argument.isNone then some second else argument
        match (plainElem elems 2).bind arrayElems with
        | some mods => (st, v, argument, some (parseModifiers mods))
        | none => (st, v, argument, some (setOfList rest))
    | none => (st, v, nullArg argument, some (setOfList rest))
  | none => (st, attrValue, argument, some (setOfList rest))

def vmodelFinish (isComponent : Bool) (t : St × Node × Option Node × Option (List String)) : Dir × St :=
  let (st, value, argument, modifiers) := t
  let (value, st) : Node × St :=
    if isAssignmentTarget value then (value, st)
    else (nEmptyIdent, st.err "Error: The value of `v-model` must be an assignable expression (an identifier or a member expression).")
  let nonEmpty := match modifiers with | some m => !m.isEmpty | none => false
  let transformed :=
    if !isComponent && nonEmpty then (match argument with | some a => some a | none => some nVoid0)
    else argument
  (.vmodel argument transformed (modifiers.bind (transformModifiers · isComponent)) value, st)

theorem parseVModel_eq (value : Node) (c : Bool) (argument : Option Node) (rest : List String) (st : St) :
    parseVModel value c argument rest st =
      vmodelFinish c (match containerExpr value with
        | some e => vmodelTuple c e argument rest st
        | none => vmodelTuple c nEmptyIdent argument rest (st.err "Error: You have to use JSX Expression inside your `v-model`.")) := by
  unfold parseVModel vmodelFinish vmodelTuple
  cases containerExpr value <;> rfl

theorem vmodelTuple_array (c : Bool) (e : Node) (argument : Option Node) (rest : List String) (st : St) :
    vmodelTuple c e argument rest st =
      (match arrayElems e with
       | some elems =>
         ((vmodelFirst elems st).2,
          arrayForm (fun a => if c && a.isNone then some nNull else a) elems argument rest (vmodelFirst elems st).1)
       | none => (st, e, argument, some (setOfList rest))) := by
  unfold vmodelTuple arrayForm vmodelFirst
  cases arrayElems e with
  | none => rfl
  | some elems =>
    dsimp only
    cases plainElem elems 1 with
    | none => rfl
    | some second =>
      dsimp only
      cases arrayElems second with
      | some mods => rfl
      | none => cases (plainElem elems 2).bind arrayElems <;> rfl

/-- value / argument / modifiers of a custom directive -/
def normalTuple (value : Node) (argument : Option Node) (rest : List String) : Node × Option Node × Option (List String) :=
  match containerExpr value with
  | some e =>
    match arrayElems e with
    | some elems =>
      let v := (plainElem elems 0).getD nVoid0
      match plainElem elems 1 with
      | some second =>
        match arrayElems second with
        | some mods => (v, argument, some (parseModifiers mods))
        | none =>
          let argument := if argument.isNone then some second else argument
          match (plainElem elems 2).bind arrayElems with
          | some mods => (v, argument, some (parseModifiers mods))
          | none => (v, argument, some (setOfList rest))
      | none => (v, argument, some (setOfList rest))
    | none => (e, argument, some (setOfList rest))
  | none => (if value.kind = .str then value else nVoid0, argument, some (setOfList rest))

def normalFinish (dname : String) (t : Node × Option Node × Option (List String)) : Dir :=
  let (v, argument, modifiers) := t
  let nonEmpty := match modifiers with | some m => !m.isEmpty | none => false
  let argument :=
    if nonEmpty then (match argument with | some a => some a | none => some nVoid0) else argument
  .normal dname argument (modifiers.bind (transformModifiers · false)) v

theorem normalTuple_array (value : Node) (argument : Option Node) (rest : List String) :
    normalTuple value argument rest =
      (match containerExpr value with
       | some e =>
         match arrayElems e with
         | some elems => arrayForm id elems argument rest ((plainElem elems 0).getD nVoid0)
         | none => (e, argument, some (setOfList rest))
       | none => (if value.kind = .str then value else nVoid0, argument, some (setOfList rest))) := by
  unfold normalTuple arrayForm
  cases containerExpr value with
  | none => rfl
  | some e => cases arrayElems e <;> rfl

/-- `normalTuple` in the very text of `parseDirective`'s last branch, where a string value is found by a `match` on
    `value` instead of a test of its kind -/
private theorem normalTuple_eq (value : Node) (argument : Option Node) (rest : List String) :
    normalTuple value argument rest =
      (match containerExpr value with
       | some e =>
         match arrayElems e with
         | some elems =>
           let v := (plainElem elems 0).getD nVoid0
           match plainElem elems 1 with
           | some second =>
             match arrayElems second with
             | some mods => (v, argument, some (parseModifiers mods))
             | none =>
               let argument := if argument.isNone then some second else argument
               match (plainElem elems 2).bind arrayElems with
               | some mods => (v, argument, some (parseModifiers mods))
               | none => (v, argument, some (setOfList rest))
           | none => (v, argument, some (setOfList rest))
         | none => (e, argument, some (setOfList rest))
       | none =>
         match value with
         | .mk .str as ks => (.mk .str as ks, argument, some (setOfList rest))
         | _ => (nVoid0, argument, some (setOfList rest))) := by
  unfold normalTuple
  cases containerExpr value with
  | some e => rfl
  | none =>
    dsimp only
    by_cases hk : value.kind = .str
    · obtain ⟨k, as, ks⟩ := value; cases hk; rfl
    · rw [if_neg hk]
      split
      · exact absurd rfl hk
      · rfl

theorem parseDirective_eq (name : AttrName) (value : Node) (c : Bool) (st : St) :
    parseDirective name value c st =
      (if (dirNameParts name).1 == "html" then ((Dir.html (vHtmlOrText "html" value st).1), (vHtmlOrText "html" value st).2)
       else if (dirNameParts name).1 == "text" then ((Dir.text (vHtmlOrText "text" value st).1), (vHtmlOrText "text" value st).2)
       else if (dirNameParts name).1 == "model" then parseVModel value c ((dirNameParts name).2.1.map nStr) (dirNameParts name).2.2 st
       else if (dirNameParts name).1 == "slots" then (parseVSlots value, st)
       else (normalFinish (dirNameParts name).1 (normalTuple value ((dirNameParts name).2.1.map nStr) (dirNameParts name).2.2), st)) := by
  rw [normalTuple_eq]
  rfl

/-- Not used for what it says: its proof by `fun_induction` makes Lean generate the auxiliary constants of
    `isAssignmentTarget`'s functional induction in THIS module; two modules that do not import one another cannot both
    generate them and then be imported together. -/
theorem isAssignmentTarget_not_call {n : Node} (h : isAssignmentTarget n = true) : n.kind ≠ .call := by
  fun_induction isAssignmentTarget n
  case case9 => cases h                  -- the catch-all arm answers `false`
  all_goals exact fun e => nomatch e     -- the listed kinds are not `.call`

theorem arrayForm_parts (P : Node → Prop) (fix : Option Node → Option Node) (elems : List Node) (a : Option Node) (r : List String)
    (v : Node) (hv : P v) (hel : ∀ i x, plainElem elems i = some x → P x) (ha : ∀ x, a = some x → P x)
    (hfix : ∀ x, fix a = some x → P x) :
    P (arrayForm fix elems a r v).1 ∧ ∀ x, (arrayForm fix elems a r v).2.1 = some x → P x := by
  unfold arrayForm
  split
  next second hs =>
    have h2 : ∀ x, (if a.isNone = true then some second else a) = some x → P x := by
      intro x; split
      · intro h; cases h; exact hel _ _ hs
      · exact ha x
    split
    · exact ⟨hv, hfix⟩
    · split <;> exact ⟨hv, h2⟩
  next => exact ⟨hv, hfix⟩

theorem vmodelTuple_parts (P : Node → Prop) (c : Bool) (e : Node) (a : Option Node) (r : List String) (st : St)
    (he : P e) (hel : ∀ elems i x, arrayElems e = some elems → plainElem elems i = some x → P x)
    (ha : ∀ x, a = some x → P x) (h0 : P nEmptyIdent) (hn : P nNull) :
    P (vmodelTuple c e a r st).2.1 ∧ ∀ x, (vmodelTuple c e a r st).2.2.1 = some x → P x := by
  rw [vmodelTuple_array]
  split
  next elems hae =>
    refine arrayForm_parts P _ elems a r _ ?_ (fun i x => hel elems i x hae) ha fun x => ?_
    · unfold vmodelFirst
      split
      · exact hel _ _ _ hae ‹_›
      · exact h0
    · split
      · intro h; cases h; exact hn
      · exact ha x
  next => exact ⟨he, ha⟩

theorem normalTuple_parts (P : Node → Prop) (v : Node) (a : Option Node) (r : List String)
    (hcont : ∀ e, containerExpr v = some e → P e ∧ ∀ elems i x, arrayElems e = some elems → plainElem elems i = some x → P x)
    (hs : v.kind = .str → P v) (ha : ∀ x, a = some x → P x) (h0 : P nVoid0) :
    P (normalTuple v a r).1 ∧ ∀ x, (normalTuple v a r).2.1 = some x → P x := by
  rw [normalTuple_array]
  split
  next e hc =>
    obtain ⟨he, hel⟩ := hcont e hc
    split
    next elems hae =>
      refine arrayForm_parts P id elems a r _ ?_ (fun i x => hel elems i x hae) ha ha
      cases hp : plainElem elems 0 with
      | none => exact h0
      | some x => exact hel _ _ _ hae hp
    next => exact ⟨he, ha⟩
  next =>
    refine ⟨?_, ha⟩
    split
    · exact hs ‹_›
    · exact h0

end VueJsx
