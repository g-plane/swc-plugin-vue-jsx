/-
  What the directive parsers and `memberRootCheck` do to the visitor state: they report.  Every field-by-field frame fact
  about them (nothing panics, the fields the lowering only reads, the node-carrying fields …) is a projection of
  `St.Reports`.
-/
import VueJsx.Element
import VueJsx.Lemmas.DirectiveEqs

namespace VueJsx

def St.Reports (st st' : St) : Prop := ∃ msgs, st' = { st with diags := st.diags ++ msgs }

theorem St.Reports.refl (st : St) : st.Reports st := ⟨[], by simp⟩

theorem St.Reports.err {st st' : St} (h : st.Reports st') (m : String) : st.Reports (st'.err m) := by
  obtain ⟨ms, rfl⟩ := h
  exact ⟨ms ++ [m], by simp [St.err]⟩

theorem St.Reports.trans {a b c : St} (h : a.Reports b) (h' : b.Reports c) : a.Reports c := by
  obtain ⟨m, rfl⟩ := h
  obtain ⟨m', rfl⟩ := h'
  exact ⟨m ++ m', by simp⟩

theorem St.Reports.panicked {st st' : St} (h : st.Reports st') : st'.panicked = st.panicked := by
  obtain ⟨_, rfl⟩ := h; rfl

theorem vHtmlCore_reports (what : String) (c : Option Node) (st : St) : st.Reports (vHtmlCore what c st).2 := by
  unfold vHtmlCore
  split
  · split
    · split <;> exact .refl _
    · exact .refl _
  · exact (St.Reports.refl _).err _

theorem vHtmlOrText_reports (what : String) (value : Node) (st : St) : st.Reports (vHtmlOrText what value st).2 := by
  rw [vHtmlOrText_eq]
  exact ite_cases (P := fun r : Node × St => st.Reports r.2) (.refl _) (vHtmlCore_reports ..)

theorem vmodelTuple_reports (c : Bool) (e : Node) (a : Option Node) (r : List String) (st : St) :
    st.Reports (vmodelTuple c e a r st).1 := by
  rw [vmodelTuple_array]
  split
  · unfold vmodelFirst
    split
    · exact .refl _
    · exact (St.Reports.refl _).err _
  · exact .refl _

/-- By eta on `t`, the state of `vmodelFinish c t` is the second component of its `if isAssignmentTarget …`. -/
theorem vmodelFinish_reports (c : Bool) (t : St × Node × Option Node × Option (List String)) : t.1.Reports (vmodelFinish c t).2 :=
  ite_cases (P := fun r : Node × St => t.1.Reports r.2) (.refl _) ((St.Reports.refl _).err _)

theorem parseVModel_reports (value : Node) (c : Bool) (arg : Option Node) (rest : List String) (st : St) :
    st.Reports (parseVModel value c arg rest st).2 := by
  rw [parseVModel_eq]
  cases containerExpr value
  · exact (((St.Reports.refl st).err _).trans (vmodelTuple_reports ..)).trans (vmodelFinish_reports ..)
  · exact (vmodelTuple_reports ..).trans (vmodelFinish_reports ..)

theorem parseDirective_reports (name : AttrName) (value : Node) (c : Bool) (st : St) :
    st.Reports (parseDirective name value c st).2 := by
  let P : Dir × St → Prop := fun r => st.Reports r.2
  rw [parseDirective_eq]
  exact ite_cases (P := P) (vHtmlOrText_reports ..) <| ite_cases (P := P) (vHtmlOrText_reports ..) <|
    ite_cases (P := P) (parseVModel_reports ..) <| ite_cases (P := P) (.refl _) (.refl _)

theorem memberRootCheck_reports (m : Node) (st : St) : st.Reports (memberRootCheck m st) := by
  rcases memberRootCheck_cases m st with h | h <;> rw [h]
  · exact .refl _
  · exact (St.Reports.refl _).err _

end VueJsx
