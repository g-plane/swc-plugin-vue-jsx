/-
  The traversal (`visit` / `visitKids`): induction along its three cases, the frame theorem for every projection of the
  state that the scoping of pending declarations cannot disturb, what the hooks do to a node they leave alone
  (`kindHook_calm`, `exprHook_other`, `visit_plain`), and the subtrees no hook reacts to (`Inert`).
-/
import VueJsx.Lemmas.Frame
import VueJsx.Lemmas.VisitorEqs

namespace VueJsx

/-- the shapes of `visit_stmts_eq`, `visit_arrow_cons_eq`, `visit_other` -/
theorem Node.visitCases (n : Node) :
    (∃ as ks, n = .mk .stmts as ks) ∨ (∃ as params rest, n = .mk .arrow as (params :: rest)) ∨
    ∃ k as ks, n = .mk k as ks ∧ k ≠ .stmts ∧ (k = .arrow → ks = []) := by
  obtain ⟨k, as, ks⟩ := n
  by_cases hs : k = .stmts
  · exact .inl ⟨as, ks, by rw [hs]⟩
  · by_cases ha : k = .arrow
    · subst ha
      cases ks with
      | nil => exact .inr (.inr ⟨_, _, _, rfl, hs, fun _ => rfl⟩)
      | cons params rest => exact .inr (.inl ⟨as, params, rest, rfl⟩)
    · exact .inr (.inr ⟨_, _, _, rfl, hs, fun h => absurd h ha⟩)

/-- No state and no option set is fixed, so the property may speak of several runs at once. -/
theorem Node.visitInduct {P : Node → Prop}
    (stmts : ∀ as ks, (∀ c ∈ ks, P c) → P (.mk .stmts as ks))
    (arrow : ∀ as params rest, P params → (∀ c ∈ rest, P c) → P (.mk .arrow as (params :: rest)))
    (other : ∀ k as ks, k ≠ .stmts → (k = .arrow → ks = []) → (∀ c ∈ ks, P c) → P (.mk k as ks)) : ∀ n, P n := by
  refine Node.rec (motive_1 := P) (motive_2 := fun l => ∀ c ∈ l, P c) ?_ (fun _ h => nomatch h)
    (fun _ _ hc hcs _ h => by cases h with | head => exact hc | tail _ h => exact hcs _ h)
  intro k as ks ih
  rcases Node.visitCases (.mk k as ks) with ⟨_, _, e⟩ | ⟨_, _, _, e⟩ | ⟨_, _, _, e, hs, ha⟩ <;> cases e
  · exact stmts as ks ih
  · exact arrow as _ _ (ih _ (.head _)) (fun c hc => ih c (.tail _ hc))
  · exact other k as ks hs ha ih

/-- `Node.visitInduct` with a motive `Q` for child lists: for `visit` and `visitKids` together -/
theorem Node.visitInductL {P : Node → Prop} {Q : List Node → Prop}
    (stmts : ∀ as ks, Q ks → P (.mk .stmts as ks))
    (arrow : ∀ as params rest, P params → Q rest → P (.mk .arrow as (params :: rest)))
    (other : ∀ k as ks, k ≠ .stmts → (k = .arrow → ks = []) → Q ks → P (.mk k as ks))
    (nil : Q []) (cons : ∀ c cs, P c → Q cs → Q (c :: cs)) : (∀ n, P n) ∧ ∀ l, Q l := by
  have lift : ∀ l, (∀ c ∈ l, P c) → Q l := fun l => by
    induction l with
    | nil => exact fun _ => nil
    | cons c cs ih => exact fun h => cons c cs (h c (.head _)) (ih fun x hx => h x (.tail _ hx))
  have hP : ∀ n, P n := Node.visitInduct (fun as ks ih => stmts as ks (lift ks ih))
    (fun as params rest ihp ihr => arrow as params rest ihp (lift rest ihr)) (fun k as ks hs ha ih => other k as ks hs ha (lift ks ih))
  exact ⟨hP, fun l => lift l fun c _ => hP c⟩

/-- `f` does not look at what the scoping of pending declarations writes: the two pending lists, and the slot counter,
    which `St.drained` restarts together with them; a step that writes the two lists only is the instance
    `n := st.slotCounter` -/
def Blind {α : Type} (f : St → α) : Prop :=
  ∀ (st : St) c v n, f { st with injectingConsts := c, injectingVars := v, slotCounter := n } = f st

section frame
variable {α : Type} {f : St → α}

theorem Blind.drained (hf : Blind f) (st : St) : f st.drained = f st := hf st [] [] _

theorem Blind.ofDrainInto (hf : Blind f) (items : List Node) (st : St) : f (drainInto items st).2 = f st := by
  rw [drainInto_pending]; exact hf.drained st

theorem Blind.ofDrainArrow (hf : Blind f) (n : Node) (st : St) : f (drainArrow n st).2 = f st := by
  rcases drainArrow_cases n st with h | ⟨_, _, _, _, _, -, h⟩ <;> rw [h]
  exact hf.drained st

theorem visitKids_frame (o : Opts) (env : Env) :
    ∀ (ks : List Node), (∀ c ∈ ks, ∀ pos st, f (visit o env c pos st).2 = f st) →
      ∀ k pos i st, f (visitKids o env k pos i ks st).2 = f st
  | [], _, _, _, _, _ => by rw [visitKids_nil]
  | c :: cs, h, k, pos, i, st => by
    rw [visitKids_cons]
    exact (visitKids_frame o env cs (fun c hc => h c (.tail _ hc)) ..).trans (h c (.head _) _ _)

theorem visit_frame (hf : Blind f) (o : Opts) (env : Env)
    (hK : ∀ n st, f (kindHook o env n st).2 = f st) (hE : ∀ pos n st, f (exprHook o env pos n st).2 = f st) :
    ∀ n pos st, f (visit o env n pos st).2 = f st := by
  intro n
  induction n using Node.visitInduct with
  | stmts as ks ih =>
    intro pos st
    rw [visit_stmts_eq]
    calc f _ = f (drainInto _ _).2 := hf _ _ _ _
      _ = f (visitKids o env .stmts pos 0 ks st.clearPending).2 := hf.ofDrainInto _ _
      _ = f st.clearPending := visitKids_frame o env ks ih ..
      _ = f st := hf st [] [] st.slotCounter
  | arrow as params rest ihp ihr =>
    intro pos st
    rw [visit_arrow_cons_eq]
    calc f _ = f (drainArrow _ _).2 := (hE _ _ _).trans (hf _ _ _ _)
      _ = f (visitKids o env .arrow pos 1 rest (visit o env params _ st).2.clearPending).2 := hf.ofDrainArrow _ _
      _ = f (visit o env params _ st).2.clearPending := visitKids_frame o env rest ihr ..
      _ = f (visit o env params _ st).2 := hf _ [] [] _
      _ = f st := ihp _ _
  | other k as ks hs ha ih =>
    intro pos st
    rw [visit_other hs ha]
    calc f _ = f (kindHook o env _ _).2 := hE _ _ _
      _ = f (visitKids o env k pos 0 ks st).2 := hK _ _
      _ = f st := visitKids_frame o env ks ih ..

end frame

theorem dc_blind : Blind St.defineComponent := fun _ _ _ _ => rfl
theorem pragma_blind : Blind St.pragma := fun _ _ _ _ => rfl

theorem openingHook_reports (n : Node) (st : St) : st.Reports (openingHook n st).2 := by
  rw [openingHook_eq]
  split
  · unfold openingCore
    split
    · exact .refl _
    · simp only
      split
      · exact (St.Reports.refl _).err _
      · split
        · exact (St.Reports.refl _).err _
        · exact .refl _
  · exact .refl _

theorem openingHook_ro (n : Node) (st : St) : (openingHook n st).2.ro = st.ro := (openingHook_reports n st).ro

theorem exprHook_ro (o : Opts) (env : Env) (pos : Pos) (n : Node) (st : St) : (exprHook o env pos n st).2.ro = st.ro := by
  let P : Node × St → Prop := fun r => r.2.ro = st.ro
  rw [exprHook_eq]
  refine ite_cases (P := P) rfl <| ite_cases (P := P) (trElement_ro ..) <| ite_cases (P := P) (trFragment_ro ..) ?_
  split <;> rfl

theorem importHook_frame (n : Node) (st : St) : ∃ d, importHook n st = { st with defineComponent := d } := by
  rw [importHook_eq]
  split
  · split
    · exact ⟨_, rfl⟩
    · split <;> exact ⟨_, rfl⟩
  · exact ⟨_, rfl⟩

theorem importHook_of_ne (k : K) (as : List String) (ks : List Node) (st : St) (hk : k ≠ .importDecl) :
    importHook (.mk k as ks) st = st := by
  have hv : importView (.mk k as ks) = none := importView_none fun _ _ _ _ _ _ _ e => hk (Node.mk.inj e).1
  rw [importHook_eq, hv]

def importsDc : Node → Bool
  | .mk .importDecl _ (.mk .list _ specs :: .mk .str (src :: _) _ :: _) => src == "vue" && (importedDefineComponent specs).isSome
  | _ => false

theorem importsDc_eq (n : Node) :
    importsDc n = (match importView n with | some (src, dc) => src == "vue" && dc.isSome | none => false) := by
  unfold importsDc
  split
  · rfl
  · rw [importView_none ‹_›]

theorem importHook_noDc {k : K} {as : List String} {ks : List Node} (st : St) (h : importsDc (.mk k as ks) = false) :
    importHook (.mk k as ks) st = st := by
  rw [importsDc_eq] at h
  rw [importHook_eq]
  generalize importView (.mk k as ks) = v at h ⊢
  rcases v with _ | ⟨src, _ | b⟩
  · rfl
  · exact ite_self _
  · have hsrc : (src != "vue") = true := by simpa [bne] using h
    exact if_pos hsrc

theorem isDefineComponentCall_none (st : St) (call : Node) (hd : st.defineComponent = none) :
    isDefineComponentCall st call = false := by
  unfold isDefineComponentCall
  split
  · simp [hd]
  · rfl

theorem callHook_of_not_dc (o : Opts) (env : Env) (call : Node) (st : St) (h : isDefineComponentCall st call = false) :
    callHook o env call st = (call, st) := by
  unfold callHook
  rw [h]
  exact ite_cases (P := (· = (call, st))) rfl rfl

theorem callHook_calm (o : Opts) (env : Env) (n : Node) (st : St) (h : o.resolveType = false ∨ st.defineComponent = none) :
    callHook o env n st = (n, st) := by
  rcases h with h | h
  · unfold callHook; simp [h]
  · exact callHook_of_not_dc o env n st (isDefineComponentCall_none _ _ h)

theorem declaratorHook_calm (o : Opts) (n : Node) (st : St) (h : o.resolveType = false ∨ st.defineComponent = none) :
    declaratorHook o n st = (n, st) := by
  unfold declaratorHook
  rcases h with h | h
  · simp [h]
  · split
    · rfl
    · split
      · rw [isDefineComponentCall_none _ _ h]; rfl
      · rfl

/-- `hc`: the augmentation of `defineComponent` calls cannot fire -/
theorem kindHook_calm (o : Opts) (env : Env) (k : K) (as : List String) (ks : List Node) (st : St) (hk : k ≠ .jsxOpening)
    (hc : o.resolveType = false ∨ st.defineComponent = none ∨ (k ≠ .call ∧ k ≠ .declarator)) :
    kindHook o env (.mk k as ks) st = (.mk k as ks, importHook (.mk k as ks) st) := by
  have calm : k = .call ∨ k = .declarator → o.resolveType = false ∨ st.defineComponent = none := fun hk' =>
    (or_assoc.mpr hc).resolve_right fun h => hk'.elim h.1 h.2
  unfold kindHook
  split
  · next heq => cases heq; exact absurd rfl hk
  · rfl
  · next heq =>
    cases heq
    rw [importHook_of_ne _ _ _ _ (by decide), callHook_calm o env _ st (calm (.inl rfl))]
  · next heq =>
    cases heq
    rw [importHook_of_ne _ _ _ _ (by decide), declaratorHook_calm o _ st (calm (.inr rfl))]
  · next hni _ _ => rw [importHook_of_ne _ _ _ _ (fun h => hni as ks (by rw [h]))]

theorem exprHook_other (o : Opts) (env : Env) (pos : Pos) (k : K) (as : List String) (ks : List Node) (st : St)
    (h : pos ≠ .normal ∨ (k ≠ .jsxElement ∧ k ≠ .jsxFragment)) :
    ∃ a, exprHook o env pos (.mk k as ks) st = (.mk k as ks, { st with assignmentLeft := a }) := by
  rw [exprHook_eq]
  rcases h with hp | hk
  · rw [if_pos (by simpa using hp)]
    exact ⟨_, rfl⟩
  · apply ite_cases (P := fun r : Node × St => ∃ a, r = (Node.mk k as ks, { st with assignmentLeft := a }))
    · exact ⟨_, rfl⟩
    · have he : (Node.mk k as ks).kind ≠ .jsxElement := hk.1
      have hf : (Node.mk k as ks).kind ≠ .jsxFragment := hk.2
      rw [if_neg he, if_neg hf]
      split <;> exact ⟨_, rfl⟩

theorem exprHook_id (o : Opts) (env : Env) (pos : Pos) {k : K} (as : List String) (ks : List Node) (st : St)
    (hk : k ≠ .jsxElement ∧ k ≠ .jsxFragment ∧ k ≠ .assign) : exprHook o env pos (.mk k as ks) st = (.mk k as ks, st) := by
  have hl : assignLeftOf (.mk k as ks) = none := assignLeftOf_none fun _ _ _ _ _ _ e => hk.2.2 (Node.mk.inj e).1
  have he : (Node.mk k as ks).kind ≠ .jsxElement := hk.1
  have hf : (Node.mk k as ks).kind ≠ .jsxFragment := hk.2.1
  rw [exprHook_eq, if_neg he, if_neg hf, hl]
  exact ite_self _

/-- `d` is what `importHook` writes, `a` what `exprHook` remembers of an assignment. -/
theorem visit_plain (o : Opts) (env : Env) (k : K) (as : List String) (ks : List Node) (pos : Pos) (st : St)
    (hc : o.resolveType = false ∨ (k ≠ .call ∧ k ≠ .declarator))
    (hs : k ≠ .stmts) (ha : k = .arrow → ks = []) (ho : k ≠ .jsxOpening)
    (he : pos ≠ .normal ∨ (k ≠ .jsxElement ∧ k ≠ .jsxFragment)) :
    ∃ d a, visit o env (.mk k as ks) pos st =
      (.mk k as (visitKids o env k pos 0 ks st).1,
       { (visitKids o env k pos 0 ks st).2 with defineComponent := d, assignmentLeft := a }) := by
  rw [visit_other hs ha, kindHook_calm o env k as _ _ ho (hc.imp_right .inr)]
  generalize visitKids o env k pos 0 ks st = r
  obtain ⟨d, hd⟩ := importHook_frame (.mk k as r.1) r.2
  obtain ⟨a, ha⟩ := exprHook_other o env pos k as r.1 (importHook (.mk k as r.1) r.2) he
  exact ⟨d, a, by rw [ha, hd]⟩

/-- The kinds left out are those a hook tests for: `visit` itself scopes `.stmts` and `.arrow`; `kindHook` has an arm for
    `.jsxOpening`, `.importDecl`, `.call` and `.declarator`; `exprHook` lowers `.jsxElement` and `.jsxFragment` and
    remembers the target of `.assign`. -/
def inertKind (k : K) : Bool :=
  match k with
  | .stmts | .arrow | .jsxElement | .jsxFragment | .jsxOpening | .importDecl | .call | .declarator | .assign => false
  | _ => true

mutual
def Inert : Node → Bool
  | .mk k _ ks => inertKind k && InertL ks
def InertL : List Node → Bool
  | [] => true
  | n :: ns => Inert n && InertL ns
end

theorem visit_inertKind (o : Opts) (env : Env) (k : K) (as : List String) (ks : List Node) (pos : Pos) (st : St)
    (h : inertKind k = true) :
    visit o env (.mk k as ks) pos st = (.mk k as (visitKids o env k pos 0 ks st).1, (visitKids o env k pos 0 ks st).2) := by
  have ne : ∀ {k'}, inertKind k' = false → k ≠ k' := fun hk' e => by rw [e, hk'] at h; cases h
  have hs : k ≠ .stmts := ne rfl
  have ha : k ≠ .arrow := ne rfl
  have ho : k ≠ .jsxOpening := ne rfl
  have hi : k ≠ .importDecl := ne rfl
  have hcd : k ≠ .call ∧ k ≠ .declarator := ⟨ne rfl, ne rfl⟩
  have hx : k ≠ .jsxElement ∧ k ≠ .jsxFragment ∧ k ≠ .assign := ⟨ne rfl, ne rfl, ne rfl⟩
  rw [visit_other hs (fun e => absurd e ha), kindHook_calm o env k as _ _ ho (.inr (.inr hcd)),
    importHook_of_ne k as _ _ hi, exprHook_id o env pos as _ _ hx]

theorem inert_all (o : Opts) (env : Env) :
    (∀ (n : Node) (pos : Pos) (st : St), Inert n = true → visit o env n pos st = (n, st)) ∧
    ∀ (ks : List Node) (k : K) (pos : Pos) (i : Nat) (st : St), InertL ks = true → visitKids o env k pos i ks st = (ks, st) := by
  refine Node.induct (fun k as ks ih pos st h => ?_) (fun k pos i st _ => visitKids_nil ..) (fun c cs ihc ihcs k pos i st h => ?_)
  · simp only [Inert, Bool.and_eq_true] at h
    rw [visit_inertKind o env k as ks pos st h.1, ih k pos 0 st h.2]
  · simp only [InertL, Bool.and_eq_true] at h
    rw [visitKids_cons, ihc _ _ h.1, ihcs k pos _ _ h.2]

theorem visit_inert (o : Opts) (env : Env) : ∀ (n : Node) (pos : Pos) (st : St), Inert n = true → visit o env n pos st = (n, st) :=
  (inert_all o env).1

theorem visitKids_inert (o : Opts) (env : Env) : ∀ (ks : List Node) (k : K) (pos : Pos) (i : Nat) (st : St),
    InertL ks = true → visitKids o env k pos i ks st = (ks, st) :=
  (inert_all o env).2

end VueJsx
