/-
  C20 — resolveType augments only Vue's defineComponent and never overrides the user.
  The gate (`isDefineComponentCall`, `importHook`); `injectOption` on each shape of the argument list; "the user wins"
  read over abstract object entries, for every run-time value of the spread operands (`Ent`, `valOf`); and without an
  import of Vue's `defineComponent` the traversal never records a binding (`visit_dc_none`).
-/
import VueJsx.Lemmas.Visit

namespace VueJsx

/-- With resolveType off no call and no declarator is touched. -/
theorem C20_off_untouched (o : Opts) (env : Env) (n : Node) (st : St) (h : o.resolveType = false) :
    callHook o env n st = (n, st) ∧ declaratorHook o n st = (n, st) :=
  ⟨callHook_calm o env n st (.inl h), declaratorHook_calm o n st (.inl h)⟩

/-- A call that is not a call of the recorded Vue `defineComponent` binding is left exactly as it is. -/
theorem C20_other_calls_untouched (o : Opts) (env : Env) (call : Node) (st : St) (h : isDefineComponentCall st call = false) :
    callHook o env call st = (call, st) :=
  callHook_of_not_dc o env call st h

/-- A call counts as Vue's defineComponent only if its callee is an identifier spelled `defineComponent` whose binding
    is the one recorded from the import — not a same-named local, shadowing or global binding, not a member call. -/
theorem C20_gate_iff (st : St) (n b : String) (rest : List String) (iks cks : List Node) (as : List String) :
    isDefineComponentCall st (.mk .call as (.mk .ident (n :: b :: rest) iks :: cks)) = true
      ↔ (st.defineComponent = some b ∧ n = "defineComponent") := by
  unfold isDefineComponentCall
  cases h : st.defineComponent with
  | none => simp
  | some c =>
    simp only [Bool.and_eq_true, beq_iff_eq, Option.some.injEq]

theorem C20_member_callee_never (st : St) (as mas : List String) (mks cks : List Node) :
    isDefineComponentCall st (.mk .call as (.mk .member mas mks :: cks)) = false := by
  simp [isDefineComponentCall]

/-- An import declaration from any other module than 'vue' records no binding. -/
theorem C20_import_other_module (as : List String) (specs : List Node) (las sas : List String) (sks rest : List Node)
    (src : String) (st : St) (h : src ≠ "vue") :
    importHook (.mk .importDecl as (.mk .list las specs :: .mk .str (src :: sas) sks :: rest)) st = st := by
  simp [importHook, h]

theorem injectOption_closed {call : Node} {name : String} (v : Node) (h : canInjectOption call name = false) :
    injectOption call name v = call := by
  simp [injectOption, h]

/-- An option the user wrote, in any static spelling, is never injected again. -/
theorem C20_explicit_option_kept (as las aas oas pas : List String) (callee first ta : Node) (props restArgs : List Node)
    (name : String) (v : Node) (h : props.any (isOptionNamed · name) = true) :
    let call := Node.mk .call as [callee, .mk .list las (first :: .mk .arg aas [.mk .object oas [.mk .list pas props]] :: restArgs), ta]
    canInjectOption call name = false ∧ injectOption call name v = call := by
  intro call
  have hc : canInjectOption call name = false := by
    simp only [call, canInjectOption]
    split
    · rfl
    · simp [h]
  exact ⟨hc, injectOption_closed v hc⟩

/-- A call with a spread among its first two arguments is left alone. -/
theorem C20_spread_arguments_untouched (as las sas : List String) (callee ta e : Node) (restArgs : List Node) (name : String) (v : Node) :
    let call := Node.mk .call as [callee, .mk .list las (.mk .spreadArg sas [e] :: restArgs), ta]
    canInjectOption call name = false ∧ injectOption call name v = call := by
  intro call
  have hc : canInjectOption call name = false := by simp [call, canInjectOption]
  exact ⟨hc, injectOption_closed v hc⟩

/-- A call without arguments is left alone: an options object put there would stand in the place of the component. -/
theorem C20_no_arguments_untouched (as las : List String) (callee ta : Node) (name : String) (v : Node) :
    let call := Node.mk .call as [callee, .mk .list las [], ta]
    canInjectOption call name = false ∧ injectOption call name v = call := by
  intro call
  have hc : canInjectOption call name = false := by simp [call, canInjectOption]
  exact ⟨hc, injectOption_closed v hc⟩

/-- An options expression that is not an object literal is spread after the injected key, so whatever it provides wins. -/
theorem C20_options_expression_spread_last (as las aas : List String) (callee first ta e : Node) (restArgs : List Node)
    (name : String) (v : Node) (hf : ∀ a k, first ≠ .mk .spreadArg a k) (he : ∀ a k, e ≠ .mk .object a k) :
    injectOption (.mk .call as [callee, .mk .list las (first :: .mk .arg aas [e] :: restArgs), ta]) name v
      = .mk .call as [callee, .mk .list las (first :: nArg (nObject [nKV (nIdentName name) v, nSpreadElement e]) :: restArgs), ta] := by
  have hc : canInjectOption (.mk .call as [callee, .mk .list las (first :: .mk .arg aas [e] :: restArgs), ta]) name = true := by
    unfold canInjectOption
    dsimp only [List.isEmpty_cons, List.take, List.any]
    split
    next => exact absurd rfl (hf _ _)
    simp only [Bool.or_false, Bool.false_eq_true, if_false, List.getElem?_cons_succ, List.getElem?_cons_zero]
    split
    next heq => cases heq; exact absurd rfl (he _ _)
    next => rfl
  unfold injectOption
  simp only [hc, Bool.not_true, Bool.false_eq_true, if_false]
  split
  next heq => cases heq; exact absurd rfl (he _ _) -- object literal
  next heq => cases heq; simp -- `.arg _ [e]`
  next hne heq => cases heq; exact absurd rfl (hne _ _) -- other `some`
  next heq => cases heq -- `none`

/-- An entry whose key is computed at run time (`{ [key]: v }`, key not a literal) may define any option: the injected option is
    placed before it, so whatever it defines wins. -/
theorem C20_computed_key_entry_wins (kas cas ias : List String) (iks : List Node) (v : Node) (rest : List Node) (entry : Node) :
    insertBeforeFirstSpread (.mk .kv kas [.mk .computed cas [.mk .ident ias iks], v] :: rest) entry
      = entry :: .mk .kv kas [.mk .computed cas [.mk .ident ias iks], v] :: rest := by
  simp [insertBeforeFirstSpread, isSpreadProp, isSpreadProp.dynKey, isLit]

/-- a template literal without substitutions is an explicit spelling of the key: [`name`] is the user's `name` -/
theorem C20_template_key_is_explicit (kas cas tas l1 l2 : List String) (tail cooked : String) (more : List String) (eks : List Node) (v : Node) :
    isOptionNamed (.mk .kv kas [.mk .computed cas [.mk .tsTplLit tas [.mk .list l1 [], .mk .list l2 [.mk (.other "TemplateElement") (tail :: cooked :: more) eks]]], v]) cooked = true := by
  simp [isOptionNamed]

/-- Abstract entries of an options object.  A property with a static key stands for `.kv`; one that `isSpreadProp` accepts
    (a spread, or an entry whose key is computed at run time and so may define any option) for `.spread i`, `ρ i` below
    being the object it contributes. -/
inductive Ent (V : Type) where
  | kv (k : String) (v : V)
  | spread (i : Nat)

/-- JavaScript object-literal semantics: the value finally stored under `k` (later entries win); `ρ i` is the
    runtime object the i-th spread operand evaluates to -/
def valOf {V : Type} (ρ : Nat → List (String × V)) (k : String) : List (Ent V) → Option V → Option V
  | [], acc => acc
  | .kv k' v :: rest, acc => valOf ρ k rest (if k' = k then some v else acc)
  | .spread i :: rest, acc => valOf ρ k rest (match (ρ i).lookup k with | some u => some u | none => acc)

def isSpreadEnt {V : Type} : Ent V → Bool
  | .spread _ => true
  | .kv _ _ => false

/-- the generic form of `insertBeforeFirstSpread` -/
def insertBeforeFirst {α : Type} (p : α → Bool) : List α → α → List α
  | [], e => [e]
  | x :: rest, e => if p x then e :: x :: rest else x :: insertBeforeFirst p rest e

theorem insertBeforeFirstSpread_eq (props : List Node) (entry : Node) :
    insertBeforeFirstSpread props entry = insertBeforeFirst isSpreadProp props entry := by
  induction props with
  | nil => rfl
  | cons p rest ih => simp [insertBeforeFirstSpread, insertBeforeFirst, ih]

theorem valOf_no_key {V : Type} (ρ : Nat → List (String × V)) (k : String) (ents : List (Ent V)) (acc : Option V)
    (hno : ∀ e ∈ ents, match e with | .kv k' _ => k' ≠ k | .spread _ => False) : valOf ρ k ents acc = acc := by
  induction ents generalizing acc with
  | nil => rfl
  | cons e rest ih =>
    cases e with
    | kv k' v =>
      have hk : k' ≠ k := hno (.kv k' v) (.head _)
      rw [valOf, if_neg hk]
      exact ih _ fun e he => hno e (.tail _ he)
    | spread i => exact (hno (.spread i) (.head _)).elim

theorem valOf_acc {V : Type} (ρ : Nat → List (String × V)) (k : String) (ents : List (Ent V)) (acc : Option V) :
    valOf ρ k ents acc = (match valOf ρ k ents none with | some u => some u | none => acc) := by
  induction ents generalizing acc with
  | nil => rfl
  | cons e rest ih =>
    cases e with
    | kv k' w =>
      simp only [valOf]
      rw [ih (if k' = k then some w else acc), ih (if k' = k then some w else none)]
      cases valOf ρ k rest none <;> by_cases hk : k' = k <;> simp [hk]
    | spread i =>
      simp only [valOf]
      rw [ih (match (ρ i).lookup k with | some u => some u | none => acc),
        ih (match (ρ i).lookup k with | some u => some u | none => none)]
      cases valOf ρ k rest none <;> cases (ρ i).lookup k <;> rfl

/-- Injecting `k: v` before the first spread: for every runtime value of the spread operands, if the user's entries
    provide `k` the result is the user's value, otherwise it is the injected one; every other key is unchanged. -/
theorem C20_user_wins_semantic {V : Type} (ρ : Nat → List (String × V)) (k : String) (v : V) (ents : List (Ent V))
    (hno : ∀ e ∈ ents, match e with | .kv k' _ => k' ≠ k | .spread _ => True) :
    valOf ρ k (insertBeforeFirst isSpreadEnt ents (.kv k v)) none
        = (match valOf ρ k ents none with | some u => some u | none => some v)
    ∧ ∀ k', k' ≠ k → valOf ρ k' (insertBeforeFirst isSpreadEnt ents (.kv k v)) none = valOf ρ k' ents none := by
  constructor
  · -- the entries before the insertion point do not provide `k`; those after it start from `some v` (`valOf_acc`)
    induction ents with
    | nil => simp [insertBeforeFirst, valOf]
    | cons e rest ih =>
      cases e with
      | kv k' w =>
        have hk : k' ≠ k := hno (.kv k' w) (.head _)
        simp only [insertBeforeFirst, isSpreadEnt, Bool.false_eq_true, if_false, valOf, hk]
        exact ih fun e he => hno e (.tail _ he)
      | spread i =>
        rw [← valOf_acc]
        simp [insertBeforeFirst, isSpreadEnt, valOf]
  · intro k' hk'
    clear hno
    generalize (none : Option V) = acc
    induction ents generalizing acc with
    | nil => simp [insertBeforeFirst, valOf, Ne.symm hk']
    | cons e rest ih =>
      cases e with
      | kv k'' w => simp [insertBeforeFirst, isSpreadEnt, valOf, ih]
      | spread i => simp [insertBeforeFirst, isSpreadEnt, valOf, Ne.symm hk']

/-- non-vacuity: a user object `{a: 1, ...s0, b: 2}` where the spread operand provides `name` -/
example : valOf (fun _ => [("name", 7)]) "name" (insertBeforeFirst isSpreadEnt [Ent.kv "a" 1, .spread 0, .kv "b" 2] (.kv "name" 0)) none = some 7 := by
  decide

mutual
-- Unlike C09's `NoDcImport`, an import declaration must also be `InertL`: there the tree comes back as written; here JSX
-- is lowered on the way, and `importsDc` is tested on the declaration as `importHook` receives it.
/-- Every import declaration of the tree is plain (nothing inside it the visitor reacts to), so that it reaches
    `importHook` as it was written, and does not bind Vue's `defineComponent`. -/
def GoodImports : Node → Bool
  | .mk k as ks => (if k == .importDecl then InertL ks && !importsDc (.mk k as ks) else true) && GoodImportsL ks
def GoodImportsL : List Node → Bool
  | [] => true
  | n :: ns => GoodImports n && GoodImportsL ns
end

/-- Only `importHook` writes `defineComponent`: the scoping of pending declarations does not touch it (`dc_blind`), the
    other hooks at most read it (`ro_dc`, `kindHook_calm`), and a good import declaration does not bind it.
    Not an instance of `visit_frame`: `kindHook` keeps the field only on good imports and only while it is `none`, so
    this is an invariant of the tree, not a frame equation. -/
theorem dc_none_all (o : Opts) (env : Env) :
    (∀ (n : Node) (pos : Pos) (st : St), GoodImports n = true → st.defineComponent = none →
      (visit o env n pos st).2.defineComponent = none) ∧
    ∀ (ks : List Node) (k : K) (pos : Pos) (i : Nat) (st : St), GoodImportsL ks = true → st.defineComponent = none →
      (visitKids o env k pos i ks st).2.defineComponent = none := by
  apply Node.visitInductL
  case stmts =>
    intro as ks ih pos st hg hd
    simp only [GoodImports, Bool.and_eq_true] at hg
    rw [visit_stmts_eq]
    exact (dc_blind.ofDrainInto _ _).trans (ih _ _ _ _ hg.2 hd)
  case arrow =>
    intro as params rest ihp ihr pos st hg hd
    simp only [GoodImports, GoodImportsL, Bool.and_eq_true] at hg
    rw [visit_arrow_cons_eq]
    exact (ro_dc (exprHook_ro ..)).trans ((dc_blind.ofDrainArrow _ _).trans (ihr _ _ _ _ hg.2.2 (ihp _ _ hg.2.1 hd)))
  case other =>
    intro k as ks hs ha ih pos st hg hd
    simp only [GoodImports, Bool.and_eq_true] at hg
    have hkids := ih k pos 0 st hg.2 hd
    rw [visit_other hs ha]
    refine (ro_dc (exprHook_ro ..)).trans ?_
    by_cases ho : k = .jsxOpening
    · subst ho
      exact (ro_dc (openingHook_ro ..)).trans hkids
    · rw [kindHook_calm o env k as _ _ ho (.inr (.inl hkids))]
      by_cases hi : k = .importDecl
      · subst hi
        simp only [beq_self_eq_true, if_true, Bool.and_eq_true, Bool.not_eq_true'] at hg
        rw [visitKids_inert o env ks _ pos 0 st hg.1.1, importHook_noDc st hg.1.2]
        exact hd
      · rw [importHook_of_ne k as _ _ hi]
        exact hkids
  case nil =>
    intro k pos i st _ hd
    rw [visitKids_nil]
    exact hd
  case cons =>
    intro c cs ihc ihcs k pos i st hg hd
    simp only [GoodImportsL, Bool.and_eq_true] at hg
    rw [visitKids_cons]
    exact ihcs _ _ _ _ hg.2 (ihc _ _ hg.1 hd)

/-- In a tree whose import declarations do not bind Vue's `defineComponent`, under every option set and however much JSX is
    lowered on the way, the visitor never records a binding, so no call and no declarator is ever treated as Vue's
    `defineComponent`. -/
theorem visit_dc_none (o : Opts) (env : Env) : ∀ (n : Node) (pos : Pos) (st : St), GoodImports n = true →
    st.defineComponent = none → (visit o env n pos st).2.defineComponent = none :=
  (dc_none_all o env).1

theorem visitKids_dc_none (o : Opts) (env : Env) : ∀ (ks : List Node) (k : K) (pos : Pos) (i : Nat) (st : St),
    GoodImportsL ks = true → st.defineComponent = none → (visitKids o env k pos i ks st).2.defineComponent = none :=
  (dc_none_all o env).2

-- non-vacuity: a tree with an import of `ref` from 'vue', JSX, and a call spelled defineComponent meets the hypothesis
example : GoodImportsL [.mk .importDecl ["false", "evaluation"] [nList [.mk .importSpec ["false"] [nIdent "ref" "b2", nNone]], nStr "vue", nNone],
    .mk .exprStmt [] [.mk .jsxElement [] [.mk .jsxOpening [] [nIdent "div" "u", nList [], nNone], nList [], nNone]],
    .mk .exprStmt [] [.mk .call ["usr"] [nIdent "defineComponent" "u", nList [], nNone]]] = true := by
  decide

-- and an import that does bind it is rejected by the hypothesis
example : GoodImports (.mk .importDecl ["false", "evaluation"]
    [nList [.mk .importSpec ["false"] [nIdent "defineComponent" "b2", nNone]], nStr "vue", nNone]) = false := by
  decide

end VueJsx
