/-
  C02 — Children and JSX text follow the JSX whitespace and child-list rules.
  `cleanText` is the model of `util::transform_text`, tied to the Rust function on every run by the unit correspondence
  (hook `verif_hooks::transform_text`).
-/
import VueJsx.Lemmas.TextLemmas
import VueJsx.Lemmas.ElementEqs

namespace VueJsx
open Text

/-- Text without a line break is kept as written, tabs as spaces. -/
theorem C02_text_inline (s : List Char) (h : ∀ c ∈ s, isBreak c = false) :
    cleanText s = s.map tabToSpace := by
  rw [cleanText_eq_jsxRule, splitLines, splitAux_no_break _ _ h]
  -- one line: if empty it is dropped and the join of nothing is `[]` again; else it is first and last, so untrimmed
  cases s <;> simp [jsxRule, trimLines, trimLine, joinSp]

/-- For all strings: the characters other than space/tab/LF/CR of the cleaned text are exactly those of the source text,
    in order. -/
theorem C02_text_preserves_nonws (s : List Char) : (cleanText s).filter notWs = s.filter notWs := by
  -- a character that is kept is no line break, and a tab is not kept
  have h : ∀ c, (notWs c && !isBreak c) = notWs c := by
    intro c
    simp only [notWs, isJsxWs, isBreak]
    cases c == '\n' <;> cases c == '\r' <;> simp
  rw [filter_cleanText rfl, List.filter_filter]
  induction s with
  | nil => rfl
  | cons x xs ih =>
    rw [List.map_cons, List.filter_cons, List.filter_cons, ih]
    by_cases ht : x = '\t'
    · subst ht; rfl
    · rw [show tabToSpace x = x by simp [tabToSpace, ht], h]

/-- For all strings: the cleaned text contains no line break and no tab. -/
theorem C02_text_no_break_out (s : List Char) : ∀ c ∈ cleanText s, isBreak c = false ∧ c ≠ '\t' := by
  intro c hc
  by_cases hsp : c = ' '
  · subst hsp; decide
  · -- a character other than the space comes from the text, by `filter_cleanText`
    have : c ∈ (cleanText s).filter (fun c => c != ' ') := List.mem_filter.2 ⟨hc, by simpa using hsp⟩
    rw [filter_cleanText (by decide)] at this
    simp only [List.mem_filter, List.mem_map] at this
    obtain ⟨⟨⟨a, _, rfl⟩, hb⟩, _⟩ := this
    refine ⟨by simpa using hb, ?_⟩
    unfold tabToSpace; split <;> simp_all

/-- Text that cleans to the empty string contributes no child. -/
theorem C02_children_skip_empty_text (o : Opts) (env : Env) (t : String) (as : List String) (ks rest : List Node)
    (st : St) (h : cleanText t.toList = []) :
    trChildList o env (.mk .jsxText (t :: as) ks :: rest) st = trChildList o env rest st := by
  rw [trChildList_cons]
  simp [childView, h]

/-- An empty expression container (`{}` or `{/* comment */}`) contributes no child. -/
theorem C02_children_skip_empty_expr (o : Opts) (env : Env) (as1 as2 : List String) (ks rest : List Node) (st : St) :
    trChildList o env (.mk .jsxExprContainer as1 [.mk .jsxEmpty as2 ks] :: rest) st = trChildList o env rest st := by
  rw [trChildList_cons]; rfl

/-- An element with no remaining children (and no `v-slots`) gets `null`. -/
theorem C02_no_children_null (o : Opts) (isComp : Bool) (flag : Nat) (st : St) :
    finishChildren o [] isComp none flag st = (nNull, st) := rfl

/-- On a non-component host two or more children are delivered as the array of them, in order. -/
theorem C02_children_array (o : Opts) (e1 e2 : Node) (rest : List Node) (slots : Option Node) (flag : Nat) (st : St) :
    finishChildren o (e1 :: e2 :: rest) false slots flag st = (nArray (e1 :: e2 :: rest), st) := by
  simp [finishChildren]

example : cleanText "foo ".toList = "foo ".toList := by decide
example : cleanText " a\n   b\t".toList = " a b ".toList := by decide
example : cleanText "\n  \n".toList = [] := by decide
example : ∀ c ∈ "foo bar".toList, isBreak c = false := by decide

end VueJsx
