/-
  C13 — Patch flags and dynamic-prop lists are sound update hints.
  The emitted flag is a table of the six facts `patchFlagsOf` reads; the facts only grow along the fold (`Mono`), so what
  the step of one attribute establishes holds of the whole element.
-/
import VueJsx.Lemmas.ElementEqs

namespace VueJsx

theorem patchFlagsOf_table (acc : AttrAcc) :
    let f := patchFlagsOf acc
    f ∈ [0, 2, 4, 6, 8, 10, 12, 14, 16, 32, 34, 36, 38, 40, 42, 44, 46, 512, 544]
      ∧ (acc.hasDynamicKeys = true → f = PF_FULL_PROPS)
      ∧ ((acc.hasRef || !acc.directives.isEmpty) = true → f ≠ PF_HYDRATE_EVENTS ∧ f ≠ 0)
      ∧ (acc.hasDynamicKeys = false → (acc.hasClass = true → (f / PF_CLASS) % 2 = 1) ∧ (acc.hasStyle = true → (f / PF_STYLE) % 2 = 1)
          ∧ ((!acc.dynamicProps.isEmpty) = true → (f / PF_PROPS) % 2 = 1)) := by
  unfold patchFlagsOf
  -- the six facts `patchFlagsOf` reads, as Boolean variables
  generalize acc.hasDynamicKeys = keys, acc.hasClass = cls, acc.hasStyle = sty, (!acc.dynamicProps.isEmpty) = props,
    acc.hasHydration = hyd, (acc.hasRef || !acc.directives.isEmpty) = patch
  revert keys cls sty props hyd patch
  decide

/-- The flag is one of finitely many unions of the element-level bits CLASS, STYLE, PROPS, FULL_PROPS,
    HYDRATE_EVENTS, NEED_PATCH: never negative (hoisted/bail), never a fragment/slot/text bit. -/
theorem C13_flags_allowed (acc : AttrAcc) :
    patchFlagsOf acc ∈ [0, 2, 4, 6, 8, 10, 12, 14, 16, 32, 34, 36, 38, 40, 42, 44, 46, 512, 544] :=
  (patchFlagsOf_table acc).1

/-- Props that are spread, merged through a helper or have computed keys carry exactly the full-props bit. -/
theorem C13_dynamic_keys_full (acc : AttrAcc) (h : acc.hasDynamicKeys = true) : patchFlagsOf acc = PF_FULL_PROPS :=
  (patchFlagsOf_table acc).2.1 h

/-- A vnode with a ref or a runtime directive is never left with the hydration bit alone, nor with no flag. -/
theorem C13_need_patch (acc : AttrAcc) (h : acc.hasRef = true ∨ acc.directives ≠ []) :
    patchFlagsOf acc ≠ PF_HYDRATE_EVENTS ∧ patchFlagsOf acc ≠ 0 := by
  refine (patchFlagsOf_table acc).2.2.1 ?_
  rcases h with h | h
  · simp [h]
  · simp [List.isEmpty_eq_false_iff.mpr h]

/-- A spread attribute sets the dynamic-keys fact. -/
theorem C13_spread_sets_dynamic_keys (o : Opts) (isComp : Bool) (as : List String) (e : Node) (acc : AttrAcc) (st : St) :
    (attrStep o isComp (.mk .spreadElement as [e]) none acc st).1.hasDynamicKeys = true := by
  rw [attrStep_spread]
  unfold spreadAcc
  split <;> rfl

/-- An `on`/`nativeOn` object handled by transformOn (merged helper object) sets the dynamic-keys fact. -/
theorem C13_transformOn_sets_dynamic_keys (isComp : Bool) (name : String) (v : Node) (acc : AttrAcc) :
    (plainAttrFlags isComp name v true acc).hasDynamicKeys = true := rfl

/-- facts only grow; `hasRef` and `hasHydration` are left out because no cover theorem below speaks of them -/
def Mono (a b : AttrAcc) : Prop :=
  (a.hasDynamicKeys = true → b.hasDynamicKeys = true) ∧ (a.hasClass = true → b.hasClass = true)
    ∧ (a.hasStyle = true → b.hasStyle = true) ∧ (∀ k ∈ a.dynamicProps, k ∈ b.dynamicProps)

theorem Mono.refl (a : AttrAcc) : Mono a a := ⟨id, id, id, fun _ h => h⟩
theorem Mono.trans {a b c : AttrAcc} (h1 : Mono a b) (h2 : Mono b c) : Mono a c :=
  ⟨fun h => h2.1 (h1.1 h), fun h => h2.2.1 (h1.2.1 h), fun h => h2.2.2.1 (h1.2.2.1 h), fun k h => h2.2.2.2 k (h1.2.2.2 k h)⟩

theorem Mono_iff {a b : AttrAcc} {dyn dyn' : List String} {r cls sty hyd keys r' cls' sty' hyd' keys' : Bool}
    (ha : a.flags = (dyn, r, cls, sty, hyd, keys)) (hb : b.flags = (dyn', r', cls', sty', hyd', keys')) :
    Mono a b ↔ (keys = true → keys' = true) ∧ (cls = true → cls' = true) ∧ (sty = true → sty' = true) ∧ ∀ k ∈ dyn, k ∈ dyn' := by
  obtain ⟨rfl, -, rfl, rfl, -, rfl⟩ := ha
  obtain ⟨rfl, -, rfl, rfl, -, rfl⟩ := hb
  exact Iff.rfl

theorem hydrationStep_mono (isComp : Bool) (name : String) (acc : AttrAcc) : Mono acc (hydrationStep isComp name acc) := by
  unfold hydrationStep; split <;> exact Mono.refl _

theorem coverStep_mono (isComp : Bool) (name : String) (acc : AttrAcc) : Mono acc (coverStep isComp name acc) := by
  unfold coverStep
  split
  · exact ⟨id, fun _ => rfl, id, fun _ h => h⟩
  · split
    · exact ⟨id, id, fun _ => rfl, fun _ h => h⟩
    · split
      · exact Mono.refl _
      · exact ⟨id, id, id, fun k hk => mem_insertUnique.mpr (.inl hk)⟩

/-- The analysis of a plain attribute never clears a fact and never removes a dynamic prop. -/
theorem C13_plain_monotone (isComp : Bool) (name : String) (v : Node) (t : Bool) (acc : AttrAcc) :
    Mono acc (plainAttrFlags isComp name v t acc) := by
  unfold plainAttrFlags
  -- the third test has an `if` in its condition, which `split` would take before the test itself
  generalize (!(if isNone v then false else isAttrValueConstant v)) = k
  split
  · exact ⟨fun _ => rfl, id, id, fun _ h => h⟩
  · split
    · exact Mono.refl _
    · split
      · exact (hydrationStep_mono isComp name acc).trans (coverStep_mono isComp name _)
      · exact Mono.refl _

/-- A non-constant plain attribute (other than key/ref) of an element is covered: `class`/`style` by their facts,
    any other name by entering the dynamic-prop list. -/
theorem C13_plain_cover (name : String) (v : Node) (acc : AttrAcc)
    (hnc : (if isNone v then false else isAttrValueConstant v) = false) (hk : name ≠ "key") (hr : name ≠ "ref") :
    let r := plainAttrFlags false name v false acc
    (name = "class" → r.hasClass = true) ∧ (name = "style" → r.hasStyle = true)
      ∧ (name ≠ "class" → name ≠ "style" → name ∈ r.dynamicProps) := by
  simp only [plainAttrFlags, coverStep, hnc]
  refine ⟨?_, ?_, ?_⟩
  · rintro rfl; simp
  · rintro rfl; simp
  · intro h1 h2; simp [h1, h2, hk, hr]

/-- On a component `class` and `style` are ordinary props: they enter the dynamic-prop list. -/
theorem C13_plain_cover_component (name : String) (v : Node) (acc : AttrAcc)
    (hnc : (if isNone v then false else isAttrValueConstant v) = false) (hk : name ≠ "key") (hr : name ≠ "ref") :
    name ∈ (plainAttrFlags true name v false acc).dynamicProps := by
  simp [plainAttrFlags, coverStep, hnc, hk, hr]

/-- The emitted flag has the PROPS bit whenever the dynamic-prop list is non-empty and no dynamic keys were seen. -/
theorem C13_props_bit (acc : AttrAcc) (hd : acc.hasDynamicKeys = false) (hn : acc.dynamicProps ≠ []) :
    (patchFlagsOf acc / PF_PROPS) % 2 = 1 :=
  ((patchFlagsOf_table acc).2.2.2 hd).2.2 (by simp [hn])

/-- The emitted flag has the CLASS / STYLE bit whenever that fact holds and no dynamic keys were seen. -/
theorem C13_class_style_bits (acc : AttrAcc) (hd : acc.hasDynamicKeys = false) :
    (acc.hasClass = true → (patchFlagsOf acc / PF_CLASS) % 2 = 1) ∧ (acc.hasStyle = true → (patchFlagsOf acc / PF_STYLE) % 2 = 1) :=
  ⟨((patchFlagsOf_table acc).2.2.2 hd).1, ((patchFlagsOf_table acc).2.2.2 hd).2.1⟩

/-- The slot flag handed to a slots object is 1 or 2 as long as the stack holds only 1s and 2s. -/
theorem C13_slot_flag_range (o : Opts) (st : St) (h : ∀ f ∈ st.slotFlagStack, f = 1 ∨ f = 2) :
    (popFlag o st).1 = 1 ∨ (popFlag o st).1 = 2 := by
  unfold popFlag
  split
  · split
    · simp
    · next top rest heq => exact h top (List.mem_reverse.1 (heq ▸ List.mem_cons_self))
  · simp

theorem C13_stack_invariant_push (o : Opts) (st : St) (h : ∀ f ∈ st.slotFlagStack, f = 1 ∨ f = 2) :
    ∀ f ∈ (pushFlag o st).slotFlagStack, f = 1 ∨ f = 2 := by
  unfold pushFlag
  split
  · intro f hf; simp at hf; rcases hf with hf | hf
    · exact h f hf
    · simp [hf]
  · exact h

/-- A bound identifier child marks every open slot (the one being built and all enclosing ones) as dynamic. -/
theorem C13_fill_marks_all (st : St) : ∀ f ∈ (stackFill st).slotFlagStack, f = 2 := by
  intro f hf; simp [stackFill] at hf; exact hf.2.symm

theorem C13_stack_invariant_fill (st : St) : ∀ f ∈ (stackFill st).slotFlagStack, f = 1 ∨ f = 2 :=
  fun f hf => .inr (C13_fill_marks_all st f hf)

theorem vmodelStep_mono (o : Opts) (c : Bool) (a t m : Option Node) (v : Node) (acc : AttrAcc) :
    Mono acc (vmodelStep o c a t m v acc) := by
  rcases vmodelStep_flags_cases o c a t m v acc with ⟨s, hf⟩ | hf
  · exact (Mono_iff rfl hf).mpr ⟨id, id, id, fun k hk => by split <;> simp [hk]⟩
  · exact (Mono_iff rfl hf).mpr ⟨fun _ => rfl, id, id, fun _ h => h⟩

theorem dirAcc_mono (o : Opts) (c : Bool) (d : Dir) (acc : AttrAcc) : Mono acc (dirAcc o c d acc) := by
  cases d with
  | vmodel a t m v => exact vmodelStep_mono o c a t m v acc
  | html e => exact ⟨id, id, id, fun k hk => mem_insertUnique.mpr (.inl hk)⟩
  | text e => exact ⟨id, id, id, fun k hk => mem_insertUnique.mpr (.inl hk)⟩
  | normal | slots => exact Mono.refl _

theorem attrStep_mono (o : Opts) (c : Bool) (a : Node) (l : Option Node) (acc : AttrAcc) (st : St) :
    Mono acc (attrStep o c a l acc st).1 := by
  rw [attrStep_eq]
  split
  · unfold attrCore
    split
    · exact dirAcc_mono ..
    · exact (Mono_iff rfl (plainCore_flags ..)).mpr (C13_plain_monotone ..)
  · split
    · exact (Mono_iff rfl (spreadAcc_flags ..)).mpr ⟨fun _ => rfl, id, id, fun _ h => h⟩
    · exact Mono.refl _

theorem trAttrs_mono (o : Opts) (env : Env) (c : Bool) (attrs : List Node) (acc : AttrAcc) (st : St) :
    Mono acc (trAttrs o env c attrs acc st).1 :=
  trAttrs_induct o env c (motive := fun _ acc r => Mono acc r) Mono.refl
    (fun a _ _ acc st _ ih => (attrStep_mono o c a _ acc st).trans ih) attrs acc st

/-- The result of the fold is `Mono`-above the own step of `a`, taken from the accumulator `acc'` the fold reached there. -/
theorem trAttrs_cover (o : Opts) (env : Env) (c : Bool) (a : Node) (pre post : List Node) (acc : AttrAcc) (st : St) :
    ∃ l acc' st', Mono (attrStep o c a l acc' st').1 (trAttrs o env c (pre ++ a :: post) acc st).1 := by
  rw [trAttrs_append, trAttrs_cons]
  exact ⟨_, _, _, trAttrs_mono ..⟩

/-- Whatever else is written on the element, before or after, a non-constant plain attribute (other than key/ref, not
    merged through transformOn) of an element host is covered by the analysis result: `class`/`style` have their fact and
    any other name is in the dynamic-prop list. -/
theorem C13_cover_whole_element (o : Opts) (env : Env) (pre post : List Node) (as : List String) (nameN valueN : Node) (st : St)
    (hplain : isDirectiveAttrName (attrNameOf nameN) = false)
    (hnc : (if isNone valueN then false else isAttrValueConstant valueN) = false)
    (hk : attrNameText nameN ≠ "key") (hr : attrNameText nameN ≠ "ref")
    (hton : (o.transformOn && (attrNameText nameN == "on" || attrNameText nameN == "nativeOn")) = false) :
    let r := (trAttrs o env false (pre ++ .mk .jsxAttr as [nameN, valueN] :: post) {} st).1
    (attrNameText nameN = "class" → r.hasClass = true) ∧ (attrNameText nameN = "style" → r.hasStyle = true)
      ∧ (attrNameText nameN ≠ "class" → attrNameText nameN ≠ "style" → attrNameText nameN ∈ r.dynamicProps) := by
  intro r
  obtain ⟨l, acc, st', hm⟩ := trAttrs_cover o env false (.mk .jsxAttr as [nameN, valueN]) pre post {} st
  -- the attribute's own step leaves the facts `plainAttrFlags` computes, of which `C13_plain_cover` speaks
  have hm' : Mono (plainAttrFlags false (attrNameText nameN) valueN false acc) r := by
    rwa [attrStep_plain hplain, Mono_iff (plainCore_flags ..) rfl, hton] at hm
  obtain ⟨h1, h2, h3⟩ := C13_plain_cover (attrNameText nameN) valueN acc hnc hk hr
  exact ⟨fun hn => hm'.2.1 (h1 hn), fun hn => hm'.2.2.1 (h2 hn), fun hc hs => hm'.2.2.2 _ (h3 hc hs)⟩

/-- `C13_cover_whole_element` in the form of the hypotheses of `C13_dynamic_keys_full`, `C13_class_style_bits` and
    `C13_props_bit`.  The statement is about the facts, `patchFlagsOf` does not occur in it; the first disjunct is never the
    one proved. -/
theorem C13_cover_whole_element_flag (o : Opts) (env : Env) (pre post : List Node) (as : List String) (nameN valueN : Node) (st : St)
    (hplain : isDirectiveAttrName (attrNameOf nameN) = false)
    (hnc : (if isNone valueN then false else isAttrValueConstant valueN) = false)
    (hk : attrNameText nameN ≠ "key") (hr : attrNameText nameN ≠ "ref")
    (hton : (o.transformOn && (attrNameText nameN == "on" || attrNameText nameN == "nativeOn")) = false) :
    let r := (trAttrs o env false (pre ++ .mk .jsxAttr as [nameN, valueN] :: post) {} st).1
    r.hasDynamicKeys = true ∨
      ((attrNameText nameN = "class" → r.hasClass = true) ∧ (attrNameText nameN = "style" → r.hasStyle = true)
        ∧ (attrNameText nameN ≠ "class" → attrNameText nameN ≠ "style" → r.dynamicProps ≠ [] ∧ attrNameText nameN ∈ r.dynamicProps)) := by
  have h := C13_cover_whole_element o env pre post as nameN valueN st hplain hnc hk hr hton
  exact .inr ⟨h.1, h.2.1, fun h1 h2 => ⟨List.ne_nil_of_mem (h.2.2 h1 h2), h.2.2 h1 h2⟩⟩

/-- An object literal with a computed key is constant only if the key expression is (it is evaluated on every render). -/
theorem C13_computed_key_not_constant (as las kas cas : List String) (e v : Node) :
    isConstant (.mk .object as [.mk .list las [.mk .kv kas [.mk .computed cas [e], v]]]) = (isConstant e && isConstant v) := by
  rw [isConstant, allConstProps_kv, constKey, allConstProps, Bool.and_true]

/-- `{ [x]: false }` with a variable `x` is not constant. -/
example : isConstant (.mk .object [] [nList [nKV (nComputed (nIdent "x" "u")) (nBool false)]]) = false := by decide

/-- Only the global `undefined` is a constant: an identifier of that name with a local binding is not, so a prop bound to
    a shadowed `undefined` enters the dynamic-prop list. -/
theorem C13_only_global_undefined_is_constant (b : String) (r : List String) (ks : List Node) :
    isConstant (.mk .ident ("undefined" :: b :: r) ks) = (b == "u") := by
  rw [isConstant, beq_self_eq_true, Bool.true_and]

end VueJsx
