/- C03 — Component children become the slots the source denotes. -/
import VueJsx.Visitor
import VueJsx.Lemmas.DirectiveEqs

namespace VueJsx

/-- No children: the `v-slots` value (or `null`) is what the component receives. -/
theorem C03_no_children (o : Opts) (isComp : Bool) (slots : Option Node) (flag : Nat) (st : St) :
    finishChildren o [] isComp slots flag st = ((match slots with | some s => s | none => nNull), st) := rfl

/-- Two or more children of a component: a `default` slot returning them in order, with the `v-slots` entries beside it. -/
theorem C03_multiple_wrapped (o : Opts) (e1 e2 : Node) (rest : List Node) (slots : Option Node) (flag : Nat) (st : St) :
    finishChildren o (e1 :: e2 :: rest) true slots flag st = (wrapChildren o (e1 :: e2 :: rest) flag slots, st) := by
  simp [finishChildren]

/-- the `default` slot is a parameterless arrow returning the children array, first in the slots object -/
theorem C03_wrap_shape (o : Opts) (elems : List Node) (flag : Nat) (ho : o.optimize = false) :
    wrapChildren o elems flag none = nObject [nKV (nIdentName "default") (nArrow [] (nArray elems))] := by
  simp [wrapChildren, slotProps, ho]

/-- `v-slots={{a: f}}` entries are merged beside `default`. -/
theorem C03_wrap_vslots_literal (o : Opts) (elems sp : List Node) (flag : Nat) (as1 as2 : List String)
    (ho : o.optimize = false) :
    wrapChildren o elems flag (some (.mk .object as1 [.mk .list as2 sp]))
      = nObject (nKV (nIdentName "default") (nArrow [] (nArray elems)) :: sp) := by
  simp [wrapChildren, slotProps, ho]

/-- A single function child is the `default` slot itself, with the `v-slots` entries beside it. -/
theorem C03_function_child (o : Opts) (isComp : Bool) (as : List String) (ks : List Node) (aas : List String)
    (slots : Option Node) (flag : Nat) (st : St) :
    finishChildren o [.mk .arg aas [.mk .arrow as ks]] isComp slots flag st
      = (nObject (nKV (nIdentName "default") (.mk .arrow as ks) :: slotProps slots), st) := rfl

/-- `v-slots` entries are never lost beside a function child: with `v-slots={{a: f}}` the slots object is
    `{default: fn, a: f}`; without `v-slots` it is `{default: fn}`. -/
theorem C03_function_child_keeps_vslots (o : Opts) (isComp : Bool) (as as1 as2 : List String) (ks sp : List Node) (aas : List String)
    (flag : Nat) (st : St) :
    finishChildren o [.mk .arg aas [.mk .arrow as ks]] isComp (some (.mk .object as1 [.mk .list as2 sp])) flag st
      = (nObject (nKV (nIdentName "default") (.mk .arrow as ks) :: sp), st)
    ∧ finishChildren o [.mk .arg aas [.mk .arrow as ks]] isComp none flag st
      = (nObject [nKV (nIdentName "default") (.mk .arrow as ks)], st) := by
  simp [C03_function_child, slotProps]

/-- A single object-literal child is the slots object, with the `v-slots` entries beside its own. -/
theorem C03_object_child (o : Opts) (isComp : Bool) (as las aas : List String) (props : List Node)
    (slots : Option Node) (flag : Nat) (st : St) (ho : o.optimize = false) :
    finishChildren o [.mk .arg aas [.mk .object as [.mk .list las props]]] isComp slots flag st
      = (nObject (props ++ slotProps slots), st) := by
  simp [finishChildren, ho]

/-- A single identifier child of a component is decided at runtime: `_isSlot(x) ? x : {default: () => [x]}`. -/
theorem C03_ident_runtime (o : Opts) (ias aas : List String) (iks : List Node) (slots : Option Node) (flag : Nat)
    (st : St) (h : Node) (he : o.enableObjectSlots = true) (hl : st.assignmentLeft = none) (hh : st.slotHelper = some h) :
    finishChildren o [.mk .arg aas [.mk .ident ias iks]] true slots flag st
      = (nCond (nCall h [nArg (.mk .ident ias iks)]) (.mk .ident ias iks)
          (wrapChildren o [.mk .arg aas [.mk .ident ias iks]] flag slots), st) := by
  simp [finishChildren, he, buildIife, hl, hh]

/-- With enableObjectSlots off a single identifier child is always wrapped. -/
theorem C03_ident_disabled (o : Opts) (ias aas : List String) (iks : List Node) (slots : Option Node) (flag : Nat)
    (st : St) (he : o.enableObjectSlots = false) (hl : st.assignmentLeft = none) :
    finishChildren o [.mk .arg aas [.mk .ident ias iks]] true slots flag st
      = (wrapChildren o [.mk .arg aas [.mk .ident ias iks]] flag slots, st) := by
  simp [finishChildren, he, buildIife, hl]

/-- A single user-written call child is evaluated once: its value goes into a fresh temporary inside the runtime test, and
    both branches use the temporary. -/
theorem C03_call_once (o : Opts) (cas aas : List String) (cks : List Node) (slots : Option Node) (flag : Nat)
    (st : St) (h : Node) (he : o.enableObjectSlots = true) (hl : st.assignmentLeft = none)
    (hh : st.slotHelper = some h) :
    let slot := (genSlotIdent st).1
    (finishChildren o [.mk .arg aas [.mk .call ("usr" :: cas) cks]] true slots flag st).1
      = nCond (nCall h [nArg (nAssignParen slot (.mk .call ("usr" :: cas) cks))]) slot
          (wrapChildren o [nArg slot] flag slots) := by
  simp [finishChildren, he, genSlotIdent, St.fresh, buildIife, hl, hh]

/-- A generated call (a nested element's vnode call) is an ordinary child: always wrapped. -/
theorem C03_generated_call_wrapped (o : Opts) (cas aas : List String) (cks : List Node) (slots : Option Node)
    (flag : Nat) (st : St) :
    finishChildren o [.mk .arg aas [.mk .call ("syn" :: cas) cks]] true slots flag st
      = (wrapChildren o [.mk .arg aas [.mk .call ("syn" :: cas) cks]] flag slots, st) := rfl

/-- what the helper can observe of a runtime value -/
structure RtVal where
  typeofStr : String      -- `typeof v`
  toStringTag : String    -- `({}).toString.call(v)`
  isVNode : Bool          -- Vue's `isVNode(v)`

/-- evaluator for the fragment of JavaScript the helper body uses, applied to the parameter's runtime value -/
def evalHelper (s isVNode : Node) (v : RtVal) : Node → Option (Sum Bool String)
  | .mk .str (x :: _) _ => some (.inr x)
  | .mk .unary ["typeof"] [a] => if a == s then some (.inr v.typeofStr) else none
  | .mk .unary ["!"] [a] =>
    match evalHelper s isVNode v a with
    | some (.inl b) => some (.inl (!b))
    | _ => none
  | .mk .bin ["==="] [a, b] =>
    match evalHelper s isVNode v a, evalHelper s isVNode v b with
    | some (.inr x), some (.inr y) => some (.inl (x == y))
    | _, _ => none
  | .mk .bin ["||"] [a, b] =>
    match evalHelper s isVNode v a, evalHelper s isVNode v b with
    | some (.inl x), some (.inl y) => some (.inl (x || y))
    | _, _ => none
  | .mk .bin ["&&"] [a, b] =>
    match evalHelper s isVNode v a, evalHelper s isVNode v b with
    | some (.inl x), some (.inl y) => some (.inl (x && y))
    | _, _ => none
  | .mk .call _ [callee, .mk .list _ [.mk .arg _ [a]], _] =>
    if a == s then
      if callee == isVNode then some (.inl v.isVNode)
      else if callee == nMember (nMember (nObject []) "toString") "call" then some (.inr v.toStringTag)
      else none
    else none
  | _ => none

def helperBody : Node → Option Node
  | .mk .fnDecl _ [_, _, _, .mk .block _ [.mk .stmts _ [.mk .ret _ [b]]], _, _] => some b
  | _ => none

def helperParam : Node → Option Node
  | .mk .fnDecl _ [_, .mk .list _ [.mk .param _ [_, .mk .ident as _]], _, _, _, _] => some (.mk .ident as [])
  | _ => none

/-- The emitted helper returns true exactly for functions and for plain objects that are not vnodes. -/
theorem C03_helper (hn hb vn vb : String) (st : St) (v : RtVal) :
    let decl := (buildSlotHelper (nIdent hn hb) (nIdent vn vb) st).1
    (helperBody decl).bind (fun b => (helperParam decl).bind (fun s => evalHelper s (nIdent vn vb) v b))
      = some (.inl (v.typeofStr == "function" || (v.toStringTag == "[object Object]" && !v.isVNode))) := by
  -- the builders unfolded, `helperBody` / `helperParam` read body and parameter off the declaration; `evalHelper` runs on the
  -- body (the parameter: `Node.beq_self`); left: the `isVNode` identifier against the callee `{}.toString.call`
  simp only [buildSlotHelper, St.fresh, helperBody, helperParam, nBlock, nReturn, nBindingIdent, nIdent, Option.bind,
    nStmts, nBin, nUnary, nStr, nCall, nArg, nList, nNone, nMember, nObject, nIdentName]
  simp [evalHelper, Node.beq_self, nMember, nObject, nIdentName, nIdent, nList]
  simp [BEq.beq, Node.beq, Node.beqList]

/-- `v-slots` takes any expression, not only an identifier or an object literal. -/
theorem C03_vslots_any_expression (cas : List String) (e : Node) (hne : ∀ a k, e ≠ .mk .jsxEmpty a k) :
    parseVSlots (.mk .jsxExprContainer cas [e]) = .slots (some e) := by
  rw [parseVSlots, containerExpr_of_expr hne]

end VueJsx
