/-
  C15, continued — the annotation may stand on any line of a comment, and the specification's reading of a comment
  (`specPragmaOfComment` in Oracle.lean, written independently) is the model's (`pragmaOfCommentText` in Text.lean).
-/
import VueJsx.Oracle

namespace VueJsx
open Text

theorem commentLinesAux_append (cur a b : List Char) (t : Char) (ht : isLineTerm t = true) :
    commentLinesAux cur (a ++ t :: b) = commentLinesAux cur a ++ commentLinesAux [] b := by
  fun_induction commentLinesAux cur a <;> simp_all [commentLinesAux]

theorem commentLinesAux_single (cur l : List Char) (hl : ∀ ch ∈ l, isLineTerm ch = false) :
    commentLinesAux cur l = [cur.reverse ++ l] := by
  fun_induction commentLinesAux cur l <;> simp_all

/-- When no earlier line carries one, a line `@jsx <name>` in the middle of a (multi-line, JSDoc style) comment gives the
    pragma. -/
theorem C15_annotation_on_any_line (pre line post name : List Char) (t1 t2 : Char)
    (ht1 : isLineTerm t1 = true) (ht2 : isLineTerm t2 = true)
    (hpre : ∀ l ∈ Text.commentLines pre, pragmaOfComment l = none)
    (hline : ∀ ch ∈ line, isLineTerm ch = false)
    (hl : pragmaOfComment line = some name) :
    pragmaOfCommentText (pre ++ t1 :: (line ++ t2 :: post)) = some name := by
  unfold pragmaOfCommentText Text.commentLines
  rw [commentLinesAux_append _ pre _ t1 ht1, commentLinesAux_append _ line post t2 ht2, commentLinesAux_single _ line hline,
    List.findSome?_append, show List.findSome? pragmaOfComment (commentLinesAux [] pre) = none from List.findSome?_eq_none_iff.2 hpre]
  simp [hl]

theorem spec_commentLines_eq (c : List Char) : VueJsx.commentLines c = Text.commentLines c := by
  -- the fold keeps the current line in writing order and the finished lines in a list; the recursion keeps the current line reversed
  have key : ∀ (c cur : List Char) (done : List (List Char)),
      (let r := c.foldl (fun (acc : List Char × List (List Char)) ch =>
          if isLineTerm ch then ([], acc.2 ++ [acc.1]) else (acc.1 ++ [ch], acc.2)) (cur, done)
       r.2 ++ [r.1]) = done ++ commentLinesAux cur.reverse c := by
    intro c
    induction c with
    | nil => intro cur done; simp [commentLinesAux]
    | cons ch r ih =>
      intro cur done
      cases h : isLineTerm ch <;> simp [ih, commentLinesAux, h]
  exact (key c [] []).trans (by simp [Text.commentLines])

/-- The specification reads a comment exactly as the model does. -/
theorem C15_spec_reading_is_the_models (c : List Char) : specPragmaOfComment c = pragmaOfCommentText c := by
  unfold specPragmaOfComment pragmaOfCommentText
  rw [spec_commentLines_eq]

/-- non-vacuity: the usual JSDoc layout -/
example : pragmaOfCommentText "*\n * @jsx h\n ".toList = some "h".toList := by decide

/-- the specification's notion of a callable factory name (`specValidPragma` in Oracle.lean, written independently) is the model's -/
theorem C15_spec_valid_pragma_is_the_models (p : String) : specValidPragma p = isValidPragma p := by
  unfold specValidPragma isValidPragma
  cases h : (Text.splitOn '.' p.toList).map String.ofList with
  | nil => rfl
  | cons first rest =>
    simp only
    -- `congr 1` leaves the parts after the first to `rfl`.  The first: spec "a name and (not reserved or `this`)", model
    -- "`this` or (not reserved and a name)"; they agree because `this` is a name (`decide`).
    congr 1
    by_cases ht : first = "this"
    · subst ht; decide
    · have h1 : (first == "this") = false := by simpa using ht
      unfold isValidSymbol
      simp only [h1, Bool.or_false, Bool.false_or]
      cases hr : reservedWords.contains first <;> cases hl : first.toList <;> simp

/-- member chains are factory names; a reserved word cannot be the object -/
example : isValidPragma "this.h" = true ∧ isValidPragma "h.default" = true ∧ isValidPragma "React.createElement" = true
    ∧ isValidPragma "default.h" = false ∧ isValidPragma "h." = false ∧ isValidPragma "h x" = false := by decide

end VueJsx
