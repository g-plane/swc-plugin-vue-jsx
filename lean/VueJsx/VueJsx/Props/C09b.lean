/-
  C09 (continued) — idempotence: the output of the transform contains no JSX, hence is left unchanged by a second pass.
-/
import VueJsx.Props.C07
import VueJsx.Props.C09

namespace VueJsx

theorem isJsxSyntax_of_isJsxKind {k : K} (h : isJsxKind k = true) : isJsxSyntax k = true := by
  unfold isJsxKind at h
  split at h
  · rfl
  · rfl
  · rfl
  · cases h

theorem JsxFree_of_NoJsx_all :
    (∀ n, NoJsx n = true → JsxFree n = true) ∧ ∀ l, NoJsxL l = true → JsxFreeL l = true := by
  refine Node.induct (fun k as ks ih h => ?_) (fun _ => rfl) (fun c cs ihc ihcs h => ?_)
  · cases hk : isJsxKind k
    · simp [JsxFree, hk, ih (NoJsx_kids h)]
    · simp [NoJsx, isJsxSyntax_of_isJsxKind hk] at h
  · simp only [NoJsxL, Bool.and_eq_true] at h
    simp only [JsxFreeL, Bool.and_eq_true]
    exact ⟨ihc h.1, ihcs h.2⟩

theorem JsxFree_of_NoJsx : ∀ (n : Node), NoJsx n = true → JsxFree n = true := JsxFree_of_NoJsx_all.1

theorem JsxFreeL_of_NoJsxL : ∀ (l : List Node), NoJsxL l = true → JsxFreeL l = true := JsxFree_of_NoJsx_all.2

theorem transformModule_shape (o : Opts) (env : Env) (as las : List String) (items rest : List Node) :
    ∃ items' rest', (transformModule o env (.mk .module as (.mk .list las items :: rest))).1 = .mk .module as (.mk .list las items' :: rest') := by
  rw [transformModule_eq]
  exact ⟨_, _, rfl⟩

/-- With resolveType off, transforming the output of the transform again changes nothing, whether the options and comments
    of the second pass are the same or others. -/
theorem C09_idempotent (o o' : Opts) (env env' : Env) (hrt : o.resolveType = false) (hrt' : o'.resolveType = false)
    (as las : List String) (items rest : List Node) (hi : WfEs items = true) (hr : WfEs rest = true) :
    (transformModule o' env' (transformModule o env (.mk .module as (.mk .list las items :: rest))).1).1
      = (transformModule o env (.mk .module as (.mk .list las items :: rest))).1 := by
  have hnj := C07_module_NoJsx o env hrt as las items rest hi hr
  obtain ⟨items', rest', hshape⟩ := transformModule_shape o env as las items rest
  rw [hshape] at hnj ⊢
  -- the children of the module node, then those of its list node
  have hk := NoJsx_kids hnj
  simp only [NoJsxL, Bool.and_eq_true] at hk
  exact C09_module_identity o' env' hrt' as las items' rest' (JsxFreeL_of_NoJsxL _ (NoJsx_kids hk.1)) (JsxFreeL_of_NoJsxL _ hk.2)

end VueJsx
