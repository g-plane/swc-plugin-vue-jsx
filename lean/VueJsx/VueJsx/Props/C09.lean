/-
  C09 — Code that is not JSX is left exactly as written; the transform is idempotent.
  A JSX-free tree comes back unchanged, and of the state only `assignmentLeft` and `defineComponent` (Rust
  `assignment_left`, `define_component`) may differ, as long as the augmentation of `defineComponent` calls cannot fire
  (resolveType off, or no binding of Vue's `defineComponent` recorded or importable).  The names ending in `_rt` are the
  forms that hold for every option set.
-/
import VueJsx.Lemmas.Visit

namespace VueJsx

def isJsxKind (k : K) : Bool :=
  match k with
  | .jsxElement | .jsxFragment | .jsxOpening => true
  | _ => false

mutual
/-- No JSX element, fragment or opening element anywhere in the tree: the three kinds a hook reacts to. -/
def JsxFree : Node → Bool
  | .mk k _ ks => !isJsxKind k && JsxFreeL ks
def JsxFreeL : List Node → Bool
  | [] => true
  | n :: ns => JsxFree n && JsxFreeL ns
end

/-- everything the visitor remembers except the two fields a JSX-free traversal may write -/
def St.forget (st : St) : St := { st with assignmentLeft := none, defineComponent := none }

/-- no temporaries or captured copies waiting to be declared -/
def Quiet (st : St) : Prop := st.injectingVars = [] ∧ st.injectingConsts = []

mutual
-- no import declaration in the tree binds Vue's `defineComponent` (`importsDc`)
def NoDcImport : Node → Bool
  | .mk k as ks => !importsDc (.mk k as ks) && NoDcImportL ks
def NoDcImportL : List Node → Bool
  | [] => true
  | n :: ns => NoDcImport n && NoDcImportL ns
end

/-- what a JSX-free traversal may write when nothing binds `defineComponent`: only `assignmentLeft` -/
def St.forgetA (st : St) : St := { st with assignmentLeft := none }

theorem forgetA_iff {a b : St} : a.forgetA = b.forgetA ↔ a.forget = b.forget ∧ a.defineComponent = b.defineComponent := by
  constructor
  · intro h
    have h1 := congrArg St.forget h
    have h2 := congrArg St.defineComponent h
    exact ⟨h1, h2⟩
  · intro ⟨h, hd⟩
    cases a; cases b; simp_all [St.forget, St.forgetA]

theorem quiet_of_forget {a b : St} (h : a.forget = b.forget) (hq : Quiet b) : Quiet a :=
  ⟨(congrArg St.injectingVars h).trans hq.1, (congrArg St.injectingConsts h).trans hq.2⟩

/-- Leaving a scope: `a` ends a scope that was opened at `s` (by `s.clearPending`) and changed nothing else; with the
    pending lists of `s` put back it is `s` again, up to the two forgotten fields. -/
theorem forget_scope {a s : St} {c v : List Node} (h : a.forget = s.clearPending.forget)
    (hc : c = s.injectingConsts) (hv : v = s.injectingVars) :
    ({ a with injectingConsts := c, injectingVars := v } : St).forget = s.forget := by
  cases a; cases s; simp_all [St.forget, St.clearPending]

theorem drainInto_quiet (items : List Node) (st : St) (hq : Quiet st) : drainInto items st = (items, st) := by
  simp [drainInto, hq.1, hq.2]

theorem drainArrow_quiet (n : Node) (st : St) (hq : Quiet st) : drainArrow n st = (n, st) := by
  unfold drainArrow
  split
  · simp [hq.1, hq.2]
  · rfl

theorem exprHook_jsxfree (o : Opts) (env : Env) (pos : Pos) (k : K) (as : List String) (ks : List Node) (st : St)
    (hk : isJsxKind k = false) :
    ∃ a, exprHook o env pos (.mk k as ks) st = (.mk k as ks, { st with assignmentLeft := a }) :=
  exprHook_other o env pos k as ks st (.inr ⟨(by rintro rfl; cases hk), (by rintro rfl; cases hk)⟩)

theorem kindHook_identity (o : Opts) (env : Env) (k : K) (as : List String) (ks : List Node) (st : St)
    (hk : isJsxKind k = false) (hc : o.resolveType = false ∨ st.defineComponent = none) :
    kindHook o env (.mk k as ks) st = (.mk k as ks, importHook (.mk k as ks) st) :=
  kindHook_calm o env k as ks st (by rintro rfl; cases hk) (hc.imp_right .inl)

theorem kindHook_identity_rt (o : Opts) (env : Env) (k : K) (as : List String) (ks : List Node)
    (st : St) (hk : isJsxKind k = false) (hi : importsDc (.mk k as ks) = false) (hd : st.defineComponent = none) :
    kindHook o env (.mk k as ks) st = (.mk k as ks, st) := by
  rw [kindHook_identity o env k as ks st hk (.inr hd), importHook_noDc _ hi]

/-- The condition under which no call is augmented while a tree is traversed from `st`; `nodc`: nothing in the tree binds
    `defineComponent`, so that none recorded at the start means none recorded throughout. -/
def NoAug (o : Opts) (nodc : Bool) (st : St) : Prop :=
  o.resolveType = false ∨ (nodc = true ∧ st.defineComponent = none)

/-- `r`, what traversing `x` from `st` returns: `x` itself, and a state that differs from `st` in `assignmentLeft` and
    `defineComponent` only, in the latter not if `nodc`. -/
def Unchanged {α : Type} (x : α) (nodc : Bool) (st : St) (r : α × St) : Prop :=
  r.1 = x ∧ r.2.forget = st.forget ∧ (nodc = true → r.2.defineComponent = st.defineComponent)

/-- `NoAug` of two parts (`c :: cs`, or a node over its children) gives it of the first, at the same state. -/
theorem NoAug.head {o : Opts} {a b : Bool} {st : St} (h : NoAug o (a && b) st) : NoAug o a st :=
  h.imp_right fun h => ⟨(Bool.and_eq_true_iff.mp h.1).1, h.2⟩

/-- `NoAug` of two parts gives it of the second at any `st'` that has the `defineComponent` of `st`, at least if the first
    part binds none. -/
theorem NoAug.tail {o : Opts} {a b : Bool} {st st' : St} (h : NoAug o (a && b) st)
    (hd : a = true → st'.defineComponent = st.defineComponent) : NoAug o b st' :=
  h.imp_right fun h => ⟨(Bool.and_eq_true_iff.mp h.1).2, (hd (Bool.and_eq_true_iff.mp h.1).1).trans h.2⟩

theorem exprHook_unchanged (o : Opts) (env : Env) (pos : Pos) {k : K} {as : List String} {ks : List Node} {nodc : Bool} {st s : St}
    (hk : isJsxKind k = false) (h2 : s.forget = st.forget) (h3 : nodc = true → s.defineComponent = st.defineComponent) :
    Unchanged (Node.mk k as ks) nodc st (exprHook o env pos (.mk k as ks) s) := by
  obtain ⟨a, he⟩ := exprHook_jsxfree o env pos k as ks s hk
  rw [he]
  exact ⟨rfl, h2, h3⟩

/-- `nodc` is `NoDcImport` of the tree itself, a Boolean that may be false: one induction then serves the resolveType-off
    statements and those for every option set. -/
theorem unchanged_all (o : Opts) (env : Env) :
    (∀ (n : Node) (pos : Pos) (st : St), JsxFree n = true → NoAug o (NoDcImport n) st →
      Unchanged n (NoDcImport n) st (visit o env n pos st)) ∧
    ∀ (ks : List Node) (k : K) (pos : Pos) (i : Nat) (st : St), JsxFreeL ks = true → NoAug o (NoDcImportL ks) st →
      Unchanged ks (NoDcImportL ks) st (visitKids o env k pos i ks st) := by
  apply Node.visitInductL
  case stmts =>
    intro as ks ih pos st hj hc
    simp only [JsxFree, Bool.and_eq_true] at hj
    simp only [NoDcImport, importsDc, Bool.not_false, Bool.true_and] at hc ⊢   -- a statement list is no import declaration
    obtain ⟨r1, r2, r3⟩ := ih .stmts pos 0 st.clearPending hj.2 hc
    rw [visit_stmts_eq]
    -- the scope opens with nothing pending (`⟨rfl, rfl⟩ : Quiet st.clearPending`) and the children leave it so
    simp only [r1, drainInto_quiet _ _ (quiet_of_forget r2 ⟨rfl, rfl⟩)]
    exact ⟨rfl, forget_scope r2 rfl rfl, r3⟩
  case arrow =>
    intro as params rest ihp ihr pos st hj hc
    simp only [JsxFree, JsxFreeL, Bool.and_eq_true] at hj
    simp only [NoDcImport, NoDcImportL, importsDc, Bool.not_false, Bool.true_and] at hc ⊢
    obtain ⟨p1, p2, p3⟩ := ihp (kidPos .arrow pos 0) st hj.2.1 hc.head
    obtain ⟨r1, r2, r3⟩ := ihr .arrow pos 1 (visit o env params (kidPos .arrow pos 0) st).2.clearPending hj.2.2 (hc.tail p3)
    -- the body leaves nothing pending, so the scope ends with exactly what the parameters left
    have hq := quiet_of_forget r2 ⟨rfl, rfl⟩
    rw [visit_arrow_cons_eq]
    simp only [p1, r1, drainArrow_quiet _ _ hq]
    refine exprHook_unchanged o env pos rfl (.trans (forget_scope r2 ?_ ?_) p2) fun h => ?_
    · rw [hq.2, List.append_nil]
    · rw [hq.1, List.append_nil]
    · simp only [Bool.and_eq_true] at h
      exact (r3 h.2).trans (p3 h.1)
  case other =>
    intro k as ks hs ha ih pos st hj hc
    simp only [JsxFree, Bool.and_eq_true, Bool.not_eq_true'] at hj
    simp only [NoDcImport] at hc ⊢
    have hks : NoAug o (NoDcImportL ks) st := hc.tail fun _ => rfl
    obtain ⟨r1, r2, r3⟩ := ih k pos 0 st hj.2 hks
    rw [visit_other hs ha, r1,
      kindHook_identity o env k as ks _ hj.1 (hks.imp_right fun h => (r3 h.1).trans h.2)]
    -- the hook of import declarations writes `defineComponent` only, and nothing if the declaration does not bind it
    obtain ⟨d, hd⟩ := importHook_frame (.mk k as ks) (visitKids o env k pos 0 ks st).2
    refine exprHook_unchanged o env pos hj.1 (Eq.trans (by rw [hd]; rfl) r2) fun h => ?_
    simp only [Bool.and_eq_true, Bool.not_eq_true'] at h
    rw [importHook_noDc _ h.1]
    exact r3 h.2
  case nil =>
    intro k pos i st _ _
    rw [visitKids_nil]
    exact ⟨rfl, rfl, fun _ => rfl⟩
  case cons =>
    intro c cs ihc ihcs k pos i st hj hc
    simp only [JsxFreeL, Bool.and_eq_true] at hj
    rw [visitKids_cons]
    simp only [NoDcImportL] at hc ⊢
    obtain ⟨c1, c2, c3⟩ := ihc (kidPos k pos i) st hj.1 hc.head
    obtain ⟨r1, r2, r3⟩ := ihcs k pos (i + 1) (visit o env c (kidPos k pos i) st).2 hj.2 (hc.tail c3)
    refine ⟨by simp only [c1, r1], r2.trans c2, fun h => ?_⟩
    simp only [Bool.and_eq_true] at h
    exact (r3 h.2).trans (c3 h.1)

/-- `Quiet st` is not used, here or in `visit_identity_rt`: `unchanged_all` holds whatever is pending. -/
theorem visit_identity (o : Opts) (env : Env) (hrt : o.resolveType = false) :
    ∀ (n : Node) (pos : Pos) (st : St), JsxFree n = true → Quiet st →
      (visit o env n pos st).1 = n ∧ (visit o env n pos st).2.forget = st.forget :=
  fun n pos st hj _ => let ⟨h1, h2, _⟩ := (unchanged_all o env).1 n pos st hj (.inl hrt); ⟨h1, h2⟩

theorem visit_identity_rt (o : Opts) (env : Env) :
    ∀ (n : Node) (pos : Pos) (st : St), JsxFree n = true → NoDcImport n = true → Quiet st → st.defineComponent = none →
      (visit o env n pos st).1 = n ∧ (visit o env n pos st).2.forgetA = st.forgetA :=
  fun n pos st hj hi _ hd =>
    let ⟨h1, h2, h3⟩ := (unchanged_all o env).1 n pos st hj (.inr ⟨hi, hd⟩); ⟨h1, forgetA_iff.mpr ⟨h2, h3 hi⟩⟩

theorem visitKids_identity (o : Opts) (env : Env) (hrt : o.resolveType = false) :
    ∀ (ks : List Node) (k : K) (pos : Pos) (i : Nat) (st : St), JsxFreeL ks = true →
      (visitKids o env k pos i ks st).1 = ks ∧ (visitKids o env k pos i ks st).2.forget = st.forget :=
  fun ks k pos i st hj => let ⟨h1, h2, _⟩ := (unchanged_all o env).2 ks k pos i st hj (.inl hrt); ⟨h1, h2⟩

theorem visitKids_identity_rt (o : Opts) (env : Env) :
    ∀ (ks : List Node) (k : K) (pos : Pos) (i : Nat) (st : St), JsxFreeL ks = true → NoDcImportL ks = true →
      st.defineComponent = none →
      (visitKids o env k pos i ks st).1 = ks ∧ (visitKids o env k pos i ks st).2.forgetA = st.forgetA :=
  fun ks k pos i st hj hi hd =>
    let ⟨h1, h2, h3⟩ := (unchanged_all o env).2 ks k pos i st hj (.inr ⟨hi, hd⟩); ⟨h1, forgetA_iff.mpr ⟨h2, h3 hi⟩⟩

/-- the hypotheses speak of `st.forget`, which is what `unchanged_all` determines of the state after the traversal -/
theorem finishModule_idle (items : List Node) {st s0 : St} (h : st.forget = s0) (hq : Quiet s0) (h1 : s0.imports = [])
    (h2 : s0.slotHelper = none) (h3 : s0.transformOnHelper = none) : finishModule items st = (items, st) := by
  subst h
  simp [finishModule, drainInto_quiet _ _ (show Quiet st from hq), show st.imports = [] from h1,
    show st.slotHelper = none from h2, show st.transformOnHelper = none from h3]

/-- The start state differs from the empty one in the pragma and the type registries only, the traversal keeps everything
    but `assignmentLeft` and `defineComponent`, so the end adds nothing. -/
theorem module_unchanged (o : Opts) (env : Env) (as las : List String) (items rest : List Node)
    (hj : JsxFreeL items = true) (hjr : JsxFreeL rest = true)
    (hc : o.resolveType = false ∨ (NoDcImportL items = true ∧ NoDcImportL rest = true)) :
    (transformModule o env (.mk .module as (.mk .list las items :: rest))).1 = .mk .module as (.mk .list las items :: rest) := by
  obtain ⟨p, i, a, h0⟩ := startState_frame o env (.mk .module as (.mk .list las items :: rest))
  rw [transformModule_eq, h0]
  dsimp only
  obtain ⟨a1, a2, a3⟩ := (unchanged_all o env).2 items .list .normal 0
    { ({} : St) with pragma := p, interfaces := i, typeAliases := a } hj (hc.imp_right fun h => ⟨h.1, rfl⟩)
  obtain ⟨b1, b2, b3⟩ := (unchanged_all o env).2 rest .module .normal 1 _ hjr (hc.imp_right fun h => ⟨h.2, a3 h.1⟩)
  rw [a1, b1, finishModule_idle items (b2.trans a2) ⟨rfl, rfl⟩ rfl rfl rfl]

/-- A module without JSX, transformed with resolveType off, is returned unchanged, whatever comments (pragmas) it carries. -/
theorem C09_module_identity (o : Opts) (env : Env) (hrt : o.resolveType = false) (as las : List String)
    (items rest : List Node) (hj : JsxFreeL items = true) (hjr : JsxFreeL rest = true) :
    (transformModule o env (.mk .module as (.mk .list las items :: rest))).1 = .mk .module as (.mk .list las items :: rest) :=
  module_unchanged o env as las items rest hj hjr (.inl hrt)

-- non-vacuity: a JSX-free tree with assignments, arrows, statement lists and an import from 'vue'
example : JsxFreeL [.mk .importDecl ["false", "evaluation"] [nList [.mk .importSpec ["false"] [nIdent "ref" "b2", nNone]], nStr "vue", nNone],
    .mk .exprStmt [] [.mk .assign ["="] [.mk .ident ["a", "b2"] [nNone], nArrow [] (nBlock [nReturn (nNum 1)])]]] = true := by
  decide

/-- A module without JSX that does not import Vue's `defineComponent` is returned unchanged whatever the options are,
    resolveType on or off. -/
theorem C09_module_identity_all_options (o : Opts) (env : Env) (as las : List String)
    (items rest : List Node) (hj : JsxFreeL items = true) (hjr : JsxFreeL rest = true)
    (hi : NoDcImportL items = true) (hir : NoDcImportL rest = true) :
    (transformModule o env (.mk .module as (.mk .list las items :: rest))).1 = .mk .module as (.mk .list las items :: rest) :=
  module_unchanged o env as las items rest hj hjr (.inr ⟨hi, hir⟩)

-- non-vacuity: a JSX-free module with a type alias, an import from 'vue' that is not defineComponent, and a call named defineComponent
example : NoDcImportL [.mk .importDecl ["false", "evaluation"] [nList [.mk .importSpec ["false"] [nIdent "ref" "b2", nNone]], nStr "vue", nNone],
    .mk .tsAlias [] [nIdent "T" "b2", nNone, .mk .tsKeyword ["string"] []],
    .mk .exprStmt [] [.mk .call ["usr"] [nIdent "defineComponent" "u", nList [], nNone]]] = true := by
  decide

end VueJsx
