/- C01 — Every JSX element renders the vnode type and props its source denotes. -/
import VueJsx.Lemmas.ElementEqs
import VueJsx.Sem

namespace VueJsx
open Text

/-- HTML/SVG tag names are passed as the tag string. -/
theorem C01_tag_known (env : Env) (name bind : String) (rest : List String) (ks : List Node) (st : St)
    (h : isKnownTag env name = true) :
    transformTag env (.mk .ident (name :: bind :: rest) ks) st = (nStr name, st) := by
  simp [transformTag, h]

/-- `Fragment` is Vue's Fragment (imported from 'vue'). -/
theorem C01_tag_fragment (env : Env) (bind : String) (rest : List String) (ks : List Node) (st : St)
    (h : isKnownTag env "Fragment" = false) :
    transformTag env (.mk .ident ("Fragment" :: bind :: rest) ks) st = st.importFromVue "Fragment" := by
  simp [transformTag, h, FRAGMENT]

/-- A tag matched by a custom-element pattern is passed as the tag string. -/
theorem C01_tag_pattern (env : Env) (name bind : String) (rest : List String) (ks : List Node) (st : St)
    (h1 : isKnownTag env name = false) (h2 : name ≠ "Fragment") (h3 : env.isPat name = true) :
    transformTag env (.mk .ident (name :: bind :: rest) ks) st = (nStr name, st) := by
  simp [transformTag, h1, h2, h3, FRAGMENT]

/-- An unbound component name is resolved at runtime by that name. -/
theorem C01_tag_unresolved (env : Env) (name : String) (rest : List String) (ks : List Node) (st : St)
    (h1 : isKnownTag env name = false) (h2 : name ≠ "Fragment") (h3 : env.isPat name = false) :
    transformTag env (.mk .ident (name :: "u" :: rest) ks) st =
      (nCall (st.importFromVue "resolveComponent").1 [nArg (nStr name)], (st.importFromVue "resolveComponent").2) := by
  simp [transformTag, h1, h2, h3, FRAGMENT]

/-- A bound identifier is the vnode type itself. -/
theorem C01_tag_bound (env : Env) (name bind : String) (rest : List String) (ks : List Node) (st : St)
    (h1 : isKnownTag env name = false) (h2 : name ≠ "Fragment") (h3 : env.isPat name = false) (h4 : bind ≠ "u") :
    transformTag env (.mk .ident (name :: bind :: rest) ks) st = (nIdent name bind, st) := by
  simp [transformTag, h1, h2, h3, h4, FRAGMENT]

/-- A member tag `<a.b.C>` is passed as the member expression `a.b.C`; the state changes at most by the diagnostic about
    an object that is not an identifier (`<a-b.C>`). -/
theorem C01_tag_member (env : Env) (as : List String) (ks : List Node) (st : St) :
    transformTag env (.mk .jsxMember as ks) st
      = (jsxMemberToExpr (.mk .jsxMember as ks), memberRootCheck (.mk .jsxMember as ks) st) := rfl

/-- `<a.b.C>` whose first identifier can be bound (or is `this`) is lowered without a diagnostic. -/
theorem C01_tag_member_quiet (as oas : List String) (n : String) (oks : List Node) (prop : Node) (st : St)
    (h : n = "this" ∨ isValidSymbol n = true) :
    memberRootCheck (.mk .jsxMember as [.mk .ident (n :: oas) oks, prop]) st = st := by
  rcases h with h | h <;> simp [memberRootCheck, memberRoot, h]

/-- `<a-b.C>` is reported: nothing can be bound to `a-b`, and `a-b.C` would print as a subtraction. -/
theorem C01_tag_member_object_reported (as oas : List String) (n : String) (oks : List Node) (prop : Node) (st : St)
    (h1 : n ≠ "this") (h2 : isValidSymbol n = false) :
    memberRootCheck (.mk .jsxMember as [.mk .ident (n :: oas) oks, prop]) st
      = st.err "Error: The object of a member tag must be an identifier." := by
  simp [memberRootCheck, memberRoot, h1, h2]

/-- A property that is an identifier name (`<a.b>`) is accessed as `a.b`. -/
theorem C01_tag_member_shape (as oas pas : List String) (n b pn : String) (oks pks : List Node) (hn : n ≠ "this")
    (hp : isValidPropIdent pn = true) :
    jsxMemberToExpr (.mk .jsxMember as [.mk .ident (n :: b :: oas) oks, .mk .ident (pn :: pas) pks])
      = .mk .member [] [.mk .ident (n :: b :: oas) [], .mk .ident (pn :: pas) pks] := by
  simp [jsxMemberToExpr, hn, hp]

/-- A property that is not an identifier name (`<a.b-c>`) is accessed as `a["b-c"]`. -/
theorem C01_tag_member_hyphen (as oas pas : List String) (n b pn : String) (oks pks : List Node) (hn : n ≠ "this")
    (hp : isValidPropIdent pn = false) :
    jsxMemberToExpr (.mk .jsxMember as [.mk .ident (n :: b :: oas) oks, .mk .ident (pn :: pas) pks])
      = .mk .member [] [.mk .ident (n :: b :: oas) [], nComputed (nStr pn)] := by
  simp [jsxMemberToExpr, hn, hp]

/-- A value-less attribute is `true`. -/
theorem C01_valueless_true (st : St) : attrValueExpr nNone none st = (nBool true, st) := rfl

/-- A string value is whitespace-normalised by the JSX text rule. -/
theorem C01_string_value_cleaned (s : String) (as : List String) (ks : List Node) (st : St) :
    attrValueExpr (.mk .str (s :: as) ks) none st = (nStr (String.ofList (cleanText s.toList)), st) := rfl

/-- An expression value is passed unchanged. -/
theorem C01_expr_value (e : Node) (as : List String) (st : St) :
    attrValueExpr (.mk .jsxExprContainer as [e]) none st = (e, st) := rfl

/-- With mergeProps off, a spread of a non-literal expression stays a spread inside the one props object. -/
theorem C01_spread_plain (o : Opts) (isComp : Bool) (e : Node) (as : List String) (acc : AttrAcc) (st : St)
    (hm : o.mergeProps = false) (he : ∀ a k, e ≠ .mk .object a k) :
    (attrStep o isComp (.mk .spreadElement as [e]) none acc st).1.props = acc.props ++ [nSpreadElement e]
    ∧ (attrStep o isComp (.mk .spreadElement as [e]) none acc st).1.mergeArgs = acc.mergeArgs := by
  have hs : spreadEntries e = [nSpreadElement e] := by
    rw [spreadEntries, objLitParts_none fun _ _ _ h => he _ _ h]
  simp [attrStep_spread, spreadAcc, hm, hs]

/-- With mergeProps on, a spread closes the pending run (deduplicated) and becomes its own mergeProps layer. -/
theorem C01_spread_merge (o : Opts) (isComp : Bool) (e : Node) (as : List String) (acc : AttrAcc) (st : St)
    (hm : o.mergeProps = true) (he : ∀ a k, e ≠ .mk .object a k) (hp : acc.props ≠ []) :
    (attrStep o isComp (.mk .spreadElement as [e]) none acc st).1.props = []
    ∧ (attrStep o isComp (.mk .spreadElement as [e]) none acc st).1.mergeArgs
        = acc.mergeArgs ++ [nObject (dedupeProps acc.props), e] := by
  have _ := he   -- unused: the operand becomes a merge argument as it is, object literal or not
  simp [attrStep_spread, spreadAcc, hm, List.isEmpty_eq_false_iff.mpr hp]

/-- No attributes at all: props are `null`. -/
theorem C01_no_attrs (o : Opts) (env : Env) (isComp : Bool) (st : St) :
    (transformAttrs o env [] isComp st).1.attrs = nNull := by
  rw [transformAttrs_nil]

/-- Two or more mergeProps layers are combined by one call of Vue's `mergeProps`, in source order. -/
theorem C01_assemble_merge (o : Opts) (a b : Node) (rest : List Node) (st : St) :
    assembleProps o [] (a :: b :: rest) st =
      (nCall (st.importFromVue "mergeProps").1 ((a :: b :: rest).map nArg), (st.importFromVue "mergeProps").2) := rfl

-- Vue merge of a repeated `class`: both parts are kept, in order
#guard normOps [.merge "class" (nStr "a"), .merge "id" (nStr "i"), .merge "class" (nIdent "b" "u")]
    == S "props" [] [S "seg" ["init"] [S "p" ["class"] [S "cat" [] [nStr "a", nIdent "b" "u"]], S "p" ["id"] [nStr "i"]]]

-- plain (last-wins) semantics of a repeated `class`
#guard normOps [.set "class" (nStr "a"), .set "class" (nIdent "b" "u")]
    == S "props" [] [S "seg" ["init"] [S "p" ["class"] [S "cat" [] [nIdent "b" "u"]]]]

end VueJsx
