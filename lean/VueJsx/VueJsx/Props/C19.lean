/-
  C19 — resolveType derives exactly the declared emitted events.
  No `emits` without a `SetupContext<…>` annotation on the second parameter; for `SetupContext<{ (e: U₁): void; …; (e: Uₙ): void }>`
  with every Uᵢ a literal union nested to any depth the `emits` array lists exactly the literals of U₁ … Uₙ, in order; the
  property syntax `{ name: […]; 'quoted-name': […] }` lists exactly the property names.
  The grammar `ETy` of literal unions, with its meaning `ETy.names`, is a specification local to this file; the theorems on call
  signatures and on the property syntax are about concrete shapes.  The refinement theorem of Props/C19c is about another, TypeSpec's
  `emitsOfType`, on all type nodes.  Nothing links the two.
-/
import VueJsx.Props.C16

namespace VueJsx

theorem C19_no_second_parameter (as : List String) (p : Node) (rest : List Node) (st : St) :
    extractEmitsType (.mk .arg as [.mk .arrow [] (.mk .list [] [p] :: rest)]) st = (none, st)
    ∧ extractEmitsType (.mk .arg as [.mk .arrow [] (.mk .list [] [] :: rest)]) st = (none, st) :=
  ⟨rfl, rfl⟩

theorem C19_unannotated_second_parameter (as ias : List String) (p : Node) (rest : List Node) (st : St) :
    extractEmitsType (.mk .arg as [.mk .arrow [] (.mk .list [] [p, .mk .ident ias [nNone]] :: rest)]) st = (none, st) :=
  rfl

/-- an annotation that is a type reference to anything but `SetupContext` adds nothing -/
theorem C19_other_annotation (as ias tas : List String) (p : Node) (rest : List Node) (st : St) (n : String)
    (nr : List String) (iks : List Node) (targs : Node) (hn : n ≠ "SetupContext") :
    extractEmitsType (.mk .arg as [.mk .arrow [] (.mk .list [] [p, .mk .ident ias
      [.mk .tsTypeAnn [] [.mk .tsTypeRef tas [.mk .ident (n :: nr) iks, targs]]]] :: rest)]) st = (none, st) := by
  simp only [extractEmitsType, setupParams, Option.bind, List.getElem?_cons_succ, List.getElem?_cons_zero, typeAnnInner]
  split
  · next heq => cases heq; simp [hn]
  · rfl

/-- a setup argument that is an identifier, not a function written in place, gives nothing -/
theorem C19_not_a_function (as ias : List String) (iks : List Node) (st : St) :
    extractEmitsType (.mk .arg as [.mk .ident ias iks]) st = (none, st) :=
  rfl

inductive ETy where
  | lit (s : String)
  | union (ts : List ETy)
  | paren (t : ETy)

mutual
def ETy.toNode : ETy → Node
  | .lit s => .mk .tsLitType [] [.mk .str [s] []]
  | .union ts => .mk .tsUnion [] [nList (ETy.toNodes ts)]
  | .paren t => .mk .tsParen [] [t.toNode]
def ETy.toNodes : List ETy → List Node
  | [] => []
  | t :: ts => t.toNode :: ETy.toNodes ts
end

mutual
/-- the literals of the type, left to right -/
def ETy.names : ETy → List String
  | .lit s => [s]
  | .union ts => ETy.namesL ts
  | .paren t => t.names
def ETy.namesL : List ETy → List String
  | [] => []
  | t :: ts => t.names ++ ETy.namesL ts
end

mutual
def ETy.depth : ETy → Nat
  | .lit _ => 1
  | .union ts => 1 + ETy.depthL ts
  | .paren t => 1 + t.depth
def ETy.depthL : List ETy → Nat
  | [] => 0
  | t :: ts => max t.depth (ETy.depthL ts)
end

mutual
theorem resolveStrings_eq_names : ∀ (t : ETy) (fuel : Nat) (st : St), st.typeGaveUp = false → t.depth ≤ fuel →
    resolveStrings fuel st t.toNode = (t.names, st)
  | t, 0, _, _, hd => by cases t <;> simp [ETy.depth] at hd
  | .lit s, f + 1, st, hg, _ => resolveStrings_lit hg
  | .union ts, f + 1, st, hg, hd => by
    rw [ETy.toNode, nList, resolveStrings_union hg, ETy.names]
    simpa using resolveStringsL_eq_names ts f st [] hg (by simp [ETy.depth] at hd; omega)
  | .paren t, f + 1, st, hg, hd => by
    rw [ETy.toNode, resolveStrings_paren hg, ETy.names]
    exact resolveStrings_eq_names t f st hg (by simp [ETy.depth] at hd; omega)
theorem resolveStringsL_eq_names : ∀ (ts : List ETy) (fuel : Nat) (st : St) (acc : List String), st.typeGaveUp = false → ETy.depthL ts ≤ fuel →
    (ETy.toNodes ts).foldl (unionStep fuel) (acc, st) = (acc ++ ETy.namesL ts, st)
  | [], _, _, _, _, _ => by simp [ETy.toNodes, ETy.namesL]
  | t :: ts, fuel, st, acc, hg, hd => by
    have hd' : t.depth ≤ fuel ∧ ETy.depthL ts ≤ fuel := by simp [ETy.depthL] at hd; omega
    have h1 := resolveStrings_eq_names t fuel st hg hd'.1
    have h2 := resolveStringsL_eq_names ts fuel st (acc ++ t.names) hg hd'.2
    simp only [ETy.toNodes, List.foldl, ETy.namesL, unionStep_eq hg h1, h2, List.append_assoc]
end

/-- Literal unions expand to exactly their literals, in order, at every nesting depth the limit admits. -/
theorem C19_literal_union_expansion (t : ETy) (st : St) (hg : st.typeGaveUp = false) (hd : t.depth ≤ FUEL) :
    resolveStrings FUEL st t.toNode = (t.names, st) := resolveStrings_eq_names t FUEL st hg hd

/-- A literal union behind an alias expands to the same literals: `type A = <union>; (e: A) => void`. -/
theorem C19_literal_union_through_alias (t : ETy) (st : St) (n b : String) (ir : List String) (iks rest : List Node)
    (as : List String) (f : Nat) (hd : t.depth ≤ f) (hreg : lookupReg st.typeAliases (n, b) = some t.toNode)
    (hg : st.typeGaveUp = false) :
    resolveStrings (f + 1) st (.mk .tsTypeRef as (.mk .ident (n :: b :: ir) iks :: rest)) = (t.names, st) := by
  rw [resolveStrings_alias hreg hg]
  exact resolveStrings_eq_names t f st hg hd

/-- from `st`, `ms` add the names `b` to what `emitStep` has collected and hand `st` on -/
def Carries (st : St) (ms : List Node) (b : List String) : Prop := ∀ acc, ms.foldl emitStep (acc, st) = (acc ++ b, st)

theorem Carries.nil {st : St} : Carries st [] [] := fun acc => by rw [List.foldl_nil, List.append_nil]

theorem Carries.append {st : St} {a b : List Node} {x y : List String} (ha : Carries st a x) (hb : Carries st b y) :
    Carries st (a ++ b) (x ++ y) := by
  intro acc
  rw [List.foldl_append, ha acc, hb (acc ++ x), List.append_assoc]

theorem emitStep_callSig_eq (acc : List String) (st : St) (as las : List String) (params rest : List Node) :
    emitStep (acc, st) (.mk .tsCallSig as (.mk .list las params :: rest))
      = (match firstParamType params with
         | some t => (acc ++ (resolveStrings FUEL st t).1, (resolveStrings FUEL st t).2)
         | none => (acc, st)) := by
  unfold emitStep firstParamType
  rfl

/-- A call signature carries what its first parameter's type resolves to, with the full `FUEL`. -/
theorem Carries.callSig {st : St} {as las : List String} {params rest : List Node} {ks : List String}
    (h : match firstParamType params with
         | some t => resolveStrings FUEL st t = (ks, st)
         | none => ks = []) :
    Carries st [.mk .tsCallSig as (.mk .list las params :: rest)] ks := by
  intro acc
  rw [List.foldl_cons, List.foldl_nil, emitStep_callSig_eq]
  split at h <;> simp [*]

/-- the call signature `(e: <t>): void` -/
def callSigOf (t : ETy) : Node :=
  .mk .tsCallSig [] [nList [.mk .ident ["e", "u"] [.mk .tsTypeAnn [] [t.toNode]]], nNone, nNone]

theorem emitStep_callSig (t : ETy) (st : St) (hg : st.typeGaveUp = false) (hd : t.depth ≤ FUEL) :
    Carries st [callSigOf t] t.names :=
  .callSig (resolveStrings_eq_names t FUEL st hg hd)

theorem emitFold_callSigs : ∀ (ts : List ETy) (st : St), st.typeGaveUp = false → (∀ t ∈ ts, t.depth ≤ FUEL) →
    Carries st (ts.map callSigOf) (ETy.namesL ts)
  | [], _, _, _ => .nil
  | t :: ts, st, hg, h => by
    rw [ETy.namesL]
    exact (emitStep_callSig t st hg (h t (by simp))).append (emitFold_callSigs ts st hg fun u hu => h u (by simp [hu]))

/-- `(props, ctx: SetupContext<{ (e: U₁): void; … }>) => …` as the setup argument -/
def setupWithEmits (first : Node) (e : Node) : Node :=
  .mk .arg [] [.mk .arrow ["false", "false"] [.mk .list [] [first, .mk .ident ["ctx", "u"]
    [.mk .tsTypeAnn [] [.mk .tsTypeRef [] [nIdent "SetupContext" "u", .mk .tsTypeParamInst [] [nList [e]]]]]],
    .mk .block ["usr"] [], nNone, nNone]]

theorem extractEmitsType_setupWithEmits (first e : Node) {st st' st'' : St} {ms : List Node} {names : List String}
    (h1 : resolveElements FUEL st e = (ms, st')) (h2 : ms.foldl emitStep ([], st') = (names, st'')) :
    extractEmitsType (setupWithEmits first e) st = (some (nArray (names.map fun n => nArg (nStr n))), st'') := by
  simp [extractEmitsType, setupWithEmits, setupParams, typeAnnInner, nIdent, nList, h1, h2]

/-- The `emits` array lists exactly the literals of every signature's first-parameter
    type, in order; nothing is reported. -/
theorem C19_call_signatures (ts : List ETy) (first : Node) (st : St) (hg : st.typeGaveUp = false) (h : ∀ t ∈ ts, t.depth ≤ FUEL) :
    extractEmitsType (setupWithEmits first (.mk .tsTypeLit [] [nList (ts.map callSigOf)])) st
      = (some (nArray ((ETy.namesL ts).map fun n => nArg (nStr n))), st) :=
  extractEmitsType_setupWithEmits _ _ (resolveElements_typeLit_refined (List.forall_mem_map.2 fun _ _ => rfl) hg)
    (emitFold_callSigs ts st hg h [])

/-- For a function type `(e: U) => void` (resolved to one call signature) the `emits` array lists exactly the literals of
    `U`, in order; nothing is reported. -/
theorem C19_function_type (t : ETy) (first : Node) (st : St) (hg : st.typeGaveUp = false) (h : t.depth ≤ FUEL) :
    extractEmitsType (setupWithEmits first
      (.mk .tsFnType [] [nList [.mk .ident ["e", "u"] [.mk .tsTypeAnn [] [t.toNode]]], nNone, nNone])) st
      = (some (nArray (t.names.map fun n => nArg (nStr n))), st) :=
  extractEmitsType_setupWithEmits _ _ (resolveElements_fnType hg) (emitStep_callSig t st hg h [])

/-- `name: [args]` or `'quoted-name': [args]` -/
def propSigOf (k : String × Bool) (ty : Node) : Node :=
  .mk .tsPropSig ["false", "false", "false"]
    [(if k.2 then .mk .str [k.1] [] else .mk .ident [k.1, "n"] []), .mk .tsTypeAnn [] [ty]]

theorem emitStep_propSig (k : String × Bool) (ty : Node) (st : St) : Carries st [propSigOf k ty] [k.1] := by
  obtain ⟨n, q⟩ := k
  cases q <;> exact fun _ => rfl

theorem emitFold_propSigs : ∀ (ks : List ((String × Bool) × Node)) (st : St),
    Carries st (ks.map fun k => propSigOf k.1 k.2) (ks.map (·.1.1))
  | [], _ => .nil
  | k :: ks, st => (emitStep_propSig k.1 k.2 st).append (emitFold_propSigs ks st)

/-- For the property syntax: exactly the property names (identifier or quoted, so also names with `:` and `-`). -/
theorem C19_property_syntax (ks : List ((String × Bool) × Node)) (first : Node) (st : St) (hg : st.typeGaveUp = false) :
    extractEmitsType (setupWithEmits first (.mk .tsTypeLit [] [nList (ks.map fun k => propSigOf k.1 k.2)])) st
      = (some (nArray ((ks.map (·.1.1)).map fun n => nArg (nStr n))), st) :=
  extractEmitsType_setupWithEmits _ _ (resolveElements_typeLit_refined (List.forall_mem_map.2 fun _ _ => rfl) hg)
    (emitFold_propSigs ks st [])

/-- non-vacuity -/
example : (ETy.union [.lit "a", .union [.lit "update:x", .lit "b-c"]]).depth ≤ FUEL
    ∧ (ETy.union [.lit "a", .union [.lit "update:x", .lit "b-c"]]).names = ["a", "update:x", "b-c"] := by
  decide

end VueJsx
