/-
  C12 — The optimize option changes hints only, never what is rendered: the theorem about whole modules, proved by a
  simulation through the whole model of the visitor (Lemmas/Hint*.lean).
  Scope: every module, every environment (tag tables, pattern answers, comments), every setting of the other options
  with `resolveType` off (the type-directed injection of `props`/`emits` does not look at `optimize`, but its model is
  not covered by this simulation).
-/
import VueJsx.Lemmas.HintVisit

namespace VueJsx

/-- For every module, with `resolveType` off, the output under `optimize = true` and the output under `optimize = false`
    are identical except for optimisation hints: extra patch-flag / dynamic-prop arguments of vnode calls and the reserved
    `_` entry of slot objects. -/
theorem C12_module_hints_only (o : Opts) (env : Env) (hrt : o.resolveType = false) (m : Node) :
    HintRel (transformModule { o with optimize := true } env m).1 (transformModule { o with optimize := false } env m).1 :=
  (transformModule_rel o env hrt m).1

/-- With `resolveType` off the run of a module under `optimize = true` and the run under `optimize = false` report the same
    diagnostics and agree on `panicked`. -/
theorem C12_module_same_diagnostics (o : Opts) (env : Env) (hrt : o.resolveType = false) (m : Node) :
    (transformModule { o with optimize := true } env m).2.diags = (transformModule { o with optimize := false } env m).2.diags ∧
    (transformModule { o with optimize := true } env m).2.panicked = (transformModule { o with optimize := false } env m).2.panicked := by
  have h := (transformModule_rel o env hrt m).2
  exact ⟨h.same St.diags, h.same St.panicked⟩

/-- The lowering of one JSX element, nested to any depth: from any two related trees in any two similar states (`StSim`: equal
    except for the slot-flag stack and `typeGaveUp`, pending `const` declarations related) `trElement` with `optimize` on and
    `trElement` with it off give related trees, whatever `resolveType` is. -/
theorem C12_element_hints_only (o : Opts) (env : Env) {a b : Node} (h : HintRel a b) {s1 s2 : St} (hs : StSim s1 s2) :
    HintRel (trElement { o with optimize := true } env a s1).1 (trElement { o with optimize := false } env b s2).1 :=
  (trElement_rel o env h hs).1

/-- `HintRel` does not relate everything. -/
theorem C12_rel_same_root {a b : Node} (h : HintRel a b) : a.kind = b.kind ∧ a.atoms = b.atoms := ⟨h.kind, h.atoms⟩

example : ¬ HintRel (nStr "a") (nStr "b") := by
  intro h
  have := h.atoms
  simp [nStr, Node.atoms] at this

/-- The hints `optimize` adds are covered. -/
example (f tag props kids : Node) :
    HintRel (nCall f [nArg tag, nArg props, nArg kids, nArg (nNum 8), nArg (nArray [nArg (nStr "id")])])
            (nCall f [nArg tag, nArg props, nArg kids]) :=
  HintRel.vnode [] [] [] f nNone (HintRel.refl _) (HintRel.refl _) (KidsRel.same (HintRel.refl _)) rfl

end VueJsx
