/-
  C16, continued — refinement: wherever the specification's `propsOfType` (indexed access switched off) has an answer, the model's
  `resolveElements` computes it and reports nothing (`C16_model_implements_spec`).
-/
import VueJsx.Props.C16

namespace VueJsx

theorem PRes.append_eq_ok {a b : PRes} {ps : List PropSpec} (h : a.append b = .ok ps) :
    ∃ x y, a = .ok x ∧ b = .ok y ∧ ps = x ++ y := by
  cases a <;> cases b <;> simp [PRes.append] at h
  exact ⟨_, _, rfl, rfl, h.symm⟩

theorem PRes.append_unresolved_ne_ok {a : PRes} {ps : List PropSpec} : a.append .unresolved ≠ .ok ps := by
  cases a <;> nofun

theorem PRes.bind_eq_ok {r : PRes} {f : List PropSpec → PRes} {ps : List PropSpec} (h : r.bind f = .ok ps) :
    ∃ xs, r = .ok xs ∧ f xs = .ok ps := by
  cases r <;> simp [PRes.bind] at h
  exact ⟨_, rfl, h⟩

theorem literalStrings_refines : ∀ (fuel : Nat) (st : St) (ty : Node) (keys : List String), st.typeGaveUp = false →
    literalStrings fuel st ty = some keys → resolveStrings fuel st ty = (keys, st)
  | 0, _, _, _, _, h => nomatch h
  | fuel + 1, st, ty, keys, hg, h => by
    have ih := fun t b hb => literalStrings_refines fuel st t b hg hb
    unfold literalStrings at h
    split at h
    · cases h; exact resolveStrings_lit hg
    · cases h; exact resolveStrings_never hg
    · rw [resolveStrings_paren hg]; exact ih _ _ h
    · -- a union: as long as the specification's fold has a value, the model's fold has it too, in the same state
      rw [resolveStrings_union hg]
      refine List.foldl_rel (r := fun (a : List String × St) c => ∀ ks, c = some ks → a = (ks, st))
        (fun ks hk => by cases hk; rfl) (fun t _ a c ha ks hk => ?_) keys h
      split at hk
      · next _ _ a' b hb =>
        cases hk; rw [ha a' rfl]
        exact unionStep_eq hg (ih t b hb)
      · cases hk
    · -- type reference
      split at h
      · next t hl => rw [resolveStrings_alias hl hg]; exact ih _ _ h
      · cases h
    · cases h

/-- The model's result `r` carries out the specification's reading `c` from the state `st`: whenever `c` is a list of declared
    properties, `r` reports nothing and its members declare exactly these.  That `r` hands `st` on is what takes the induction on
    the fuel through a fold: every step starts from `st` again, so the hypothesis at `st` serves at each.
    `Names` (C19c) is the same relation for event names; `Gives` (C17c), for runtime types, has no condition on `c`. -/
def Reads (st : St) (r : List Node × St) (c : PRes) : Prop :=
  ∀ props, c = .ok props → r.2 = st ∧ membersSpec r.1 = props

theorem Reads.ok {st : St} {ms : List Node} {ps : List PropSpec} (h : membersSpec ms = ps) : Reads st (ms, st) (.ok ps) :=
  fun _ e => by cases e; exact ⟨rfl, h⟩

theorem Reads.append {st : St} {acc r : List Node × St} {c d : PRes}
    (ha : Reads st acc c) (hr : acc.2 = st → Reads st r d) : Reads st (acc.1 ++ r.1, r.2) (c.append d) := by
  intro ps h
  obtain ⟨x, y, rfl, rfl, rfl⟩ := PRes.append_eq_ok h
  obtain ⟨a2, a1⟩ := ha x rfl
  obtain ⟨b2, b1⟩ := hr a2 y rfl
  exact ⟨b2, by rw [membersSpec_append, a1, b1]⟩

theorem Reads.map {st : St} {r : List Node × St} {c : PRes} {g : List Node → List Node} {f : List PropSpec → List PropSpec}
    (hgf : ∀ ms, membersSpec (g ms) = f (membersSpec ms)) (h : Reads st r c) :
    Reads st (g r.1, r.2) (c.bind fun xs => .ok (f xs)) := by
  intro ps hps
  obtain ⟨xs, hx, hf⟩ := PRes.bind_eq_ok hps
  cases hf
  exact ⟨(h xs hx).1, by rw [hgf, (h xs hx).2]⟩

theorem reads_resolveElements : ∀ (fuel : Nat) (st : St) (ty : Node), st.typeGaveUp = false →
    Reads st (resolveElements fuel st ty) (propsOfTypeG false fuel st ty)
  | 0, _, _, _ => nofun
  | fuel + 1, st, ty, hg => by
    have ih := fun t => reads_resolveElements fuel st t hg
    have ih' : ∀ {t : Node} {s : St}, s = st → Reads st (resolveElements fuel s t) (propsOfTypeG false fuel st t) :=
      fun h => h ▸ ih _
    unfold propsOfTypeG
    -- along the specification's cases; where its answer is not `ok` there is nothing to show: `nofun`
    split
    · rw [C16_literal (hg := hg)]; exact .ok (membersSpec_refine _)
    · rw [C16_paren (hg := hg)]; exact ih _
    · -- intersection
      rw [resolveElements_parts (.inr rfl) hg]
      exact List.foldl_rel (r := Reads st) (.ok rfl)
        (fun t _ _ _ ha => ha.append ih')
    · nofun                    -- union
    · -- type reference
      next as n b r iks tparams =>
      cases hl : lookupReg st.typeAliases (n, b) with
      | some t => rw [C16_alias (h := hl) (hg := hg)]; exact ih _
      | none =>
        dsimp only
        split
        · next hi =>
          rw [C16_interface_extends (h1 := hl) (h2 := hi) (hg := hg)]
          refine List.foldl_rel (r := Reads st) (.ok (membersSpec_refine _))
            (fun p _ ⟨ms, s⟩ c ha => ?_)
          split
          · rw [C16_extends_parent_with_arguments]; exact ha.append ih'
          · exact fun _ h => absurd h PRes.append_unresolved_ne_ok
        · nofun
        · -- no declaration: the utility types
          next hi =>
          refine iteInduction (fun _ => nofun) fun hb => ?_
          have hb : b = "u" := by simpa using hb
          subst hb
          refine
            iteInduction (fun hn => ?Partial) fun _ =>
            iteInduction (fun hn => ?Required) fun _ =>
            iteInduction (fun hn => ?Pick) fun _ =>
            iteInduction (fun hn => ?Omit) fun _ => nofun
          case Partial =>
            split
            · next p hp =>
              rw [resolveElements_partial_required true hl hi (eq_of_beq hn) hp hg]
              exact (ih p).map (membersSpec_setOptional true)
            · nofun
          case Required =>
            split
            · next p hp =>
              rw [resolveElements_partial_required false hl hi (eq_of_beq hn) hp hg]
              exact (ih p).map (membersSpec_setOptional false)
            · nofun
          case Pick =>
            split
            · next objT keysT rest hps =>
              cases hk : literalStrings fuel st keysT with
              | none => exact fun _ h => by obtain ⟨_, _, hf⟩ := PRes.bind_eq_ok h; cases hf    -- keys not literal: `unresolved`
              | some keys =>
                rw [resolveElements_pick_omit true hl hi (eq_of_beq hn) hps (literalStrings_refines fuel st keysT keys hg hk) hg]
                exact (ih objT).map (membersSpec_pick_omit true keys)
            · nofun
          case Omit =>
            split
            · next objT keysT rest hps =>
              cases hk : literalStrings fuel st keysT with
              | none => exact fun _ h => by obtain ⟨_, _, hf⟩ := PRes.bind_eq_ok h; cases hf
              | some keys =>
                rw [resolveElements_pick_omit false hl hi (eq_of_beq hn) hps (literalStrings_refines fuel st keysT keys hg hk) hg]
                exact (ih objT).map (membersSpec_pick_omit false keys)
            · nofun
    · -- indexed access (off): `resolveIndexed` has no relation to the specification's selection and spends the fuel differently
      nofun
    · nofun                    -- qualified
    · nofun                    -- keyword
    · nofun                    -- `.other`
    · nofun                    -- the rest

theorem C16_refines_spec : ∀ (fuel : Nat) (st : St) (ty : Node) (props : List PropSpec), st.typeGaveUp = false →
    propsOfTypeG false fuel st ty = .ok props →
    ∃ ms, resolveElements fuel st ty = (ms, st) ∧ membersSpec ms = props := by
  intro fuel st ty props hg h
  obtain ⟨h2, h1⟩ := reads_resolveElements fuel st ty hg props h
  exact ⟨_, Prod.ext rfl h2, h1⟩

/-- `b` is the answer `a` wherever `a` is an `ok` one -/
def PRes.le (a b : PRes) : Prop := ∀ ps, a = .ok ps → b = .ok ps

theorem PRes.le.refl {a : PRes} : a.le a := fun _ h => h

theorem PRes.le.append {a a' b b' : PRes} (h1 : a.le a') (h2 : b.le b') : (a.append b).le (a'.append b') := by
  intro ps h
  obtain ⟨x, y, rfl, rfl, rfl⟩ := PRes.append_eq_ok h
  rw [h1 x rfl, h2 y rfl]
  rfl

theorem PRes.le.bind {a a' : PRes} {f : List PropSpec → PRes} (h1 : a.le a') : (a.bind f).le (a'.bind f) := by
  intro ps h
  obtain ⟨x, rfl, hf⟩ := PRes.bind_eq_ok h
  rw [h1 x rfl]
  exact hf

theorem PRes.le.ite {p : Prop} [Decidable p] {a a' b b' : PRes} (h1 : a.le a') (h2 : b.le b') :
    (if p then a else b).le (if p then a' else b') := by
  split <;> assumption

/-- Monotone in `idx`, not in the fuel: what the reading without indexed access gives, the reading with it gives too. -/
theorem propsOfTypeG_mono : ∀ (fuel : Nat) (st : St) (ty : Node) (props : List PropSpec),
    propsOfTypeG false fuel st ty = .ok props → propsOfTypeG true fuel st ty = .ok props
  | 0, _, _ => PRes.le.refl
  | fuel + 1, st, ty => by
    have ih : ∀ t, PRes.le _ _ := propsOfTypeG_mono fuel st
    show PRes.le _ _
    -- the two sides differ in their recursive calls and at an indexed access, which the left side does not read
    unfold propsOfTypeG
    split
    · exact .refl              -- type literal
    · exact ih _               -- parentheses
    · -- intersection
      exact List.foldl_rel (r := PRes.le) .refl (fun t _ _ _ h => h.append (ih t))
    · exact .refl              -- union
    · -- type reference
      split
      · exact ih _
      · split
        · refine List.foldl_rel (r := PRes.le) .refl (fun p _ _ _ h => h.append ?_)
          split
          · exact ih _
          · exact .refl
        · exact .refl
        · -- no declaration: imported, or Partial, Required, Pick, Omit, which bind the reading of their operand, or unknown
          -- (`.ite`, not `split`: slow to check on branches this large)
          refine .ite .refl <| .ite ?_ <| .ite ?_ <| .ite ?_ <| .ite ?_ .refl
          all_goals
            split
            · exact .bind (ih _)
            · exact .refl
    · nofun                    -- indexed access
    all_goals exact .refl      -- the other four

/-- Whenever the specification, indexed access switched off, reads a props type - built from literals, parentheses,
    intersections, aliases, interfaces with `extends`, Partial, Required, Pick, Omit in any combination - as declaring `props`,
    so does the oracle's `propsOfType`, and the model's resolution yields members that declare exactly `props` (same keys, same
    order, same optional flags, same types) and reports nothing. -/
theorem C16_model_implements_spec (fuel : Nat) (st : St) (ty : Node) (props : List PropSpec) (hg : st.typeGaveUp = false)
    (h : propsOfTypeG false fuel st ty = .ok props) :
    propsOfType fuel st ty = .ok props
    ∧ ∃ ms, resolveElements fuel st ty = (ms, st) ∧ membersSpec ms = props :=
  ⟨propsOfTypeG_mono fuel st ty props h, C16_refines_spec fuel st ty props hg h⟩

def exB : Node := .mk .tsIface [] [nIdent "B" "t", nNone, nList [], .mk .tsIfaceBody [] [nList [.mk .tsPropSig ["false", "false", "false"] [.mk .ident ["b", "n"] [], nNone]]]]
def exA : Node := .mk .tsIface [] [nIdent "A" "t", nNone,
  nList [.mk .tsExprWithTypeArgs [] [.mk .ident ["Partial", "u"] [], .mk .tsTypeParamInst [] [nList [.mk .tsTypeRef [] [.mk .ident ["B", "t"] [], nNone]]]]],
  .mk .tsIfaceBody [] [nList [.mk .tsPropSig ["false", "false", "false"] [.mk .ident ["a", "n"] [], nNone]]]]
def exSt : St := { interfaces := [(("A", "t"), exA), (("B", "t"), exB)] }
/-- non-vacuity: `interface B { b } interface A extends Partial<B> { a }`, `(props: A)` - the hypothesis of the refinement holds -/
example : ∃ props, propsOfTypeG false 8 exSt (.mk .tsTypeRef [] [.mk .ident ["A", "t"] [], nNone]) = .ok props
    ∧ props.map (fun p => (specKeyName p.key, p.optional)) = [("a", false), ("b", true)] ∧ exSt.typeGaveUp = false := by
  refine ⟨_, rfl, ?_, rfl⟩
  decide

end VueJsx
