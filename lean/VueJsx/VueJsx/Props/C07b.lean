/- C07 (continued) - member tags: printable, or reported. -/
import VueJsx.Lemmas.ElementEqs
namespace VueJsx

/-- a member tag as the parser produces it: `Identifier . name` or `(member tag) . name`, every identifier with its name -/
def MemberShape : Node → Bool
  | .mk .jsxMember _ [obj, .mk .ident (_ :: _) _] =>
    (match obj with
     | .mk .ident (_ :: _) _ => true
     | .mk .ident [] _ => false
     | m => MemberShape m)
  | _ => false

def propPrintable : Node → Bool
  | .mk .ident (pn :: _) _ => isValidPropIdent pn
  | .mk .computed _ [.mk .str _ _] => true
  | _ => false

/-- a member chain that prints as the member access it is: the object is `this`, an identifier that can be a binding, or such
    a chain; the property an identifier name or a computed string -/
def PrintableMember : Node → Bool
  | .mk .member _ [o, p] =>
    (match o with
     | .mk (.other "ThisExpression") _ _ => true
     | .mk .ident (n :: _) _ => isValidSymbol n
     | .mk .ident [] _ => false
     | m => PrintableMember m)
    && propPrintable p
  | _ => false

theorem MemberShape_shape {m : Node} (h : MemberShape m = true) :
    ∃ as obj pn pr pks, m = .mk .jsxMember as [obj, .mk .ident (pn :: pr) pks] := by
  unfold MemberShape at h
  split at h
  · exact ⟨_, _, _, _, _, rfl⟩
  · cases h

theorem memberProp_printable (pn : String) (pas : List String) (pks : List Node) :
    propPrintable (memberProp (.mk .ident (pn :: pas) pks)) = true := by
  by_cases hv : isValidPropIdent pn = true <;> simp [memberProp, hv, propPrintable, nComputed, nStr]

def ReportedTag (m : Node) : Prop :=
  ∀ st : St, memberRootCheck m st = st.err "Error: The object of a member tag must be an identifier."

/-- For every parser-shaped member tag of any depth, either `transform_tag` reports it (`memberRootCheck` adds the diagnostic
    in every state) or the lowered tag is a member chain that prints as the member access the tag denotes (no `a-b.c` that
    reads as a subtraction). -/
theorem C07_member_tag_printable_or_reported (m : Node) (h : MemberShape m = true) :
    ReportedTag m ∨ PrintableMember (jsxMemberToExpr m) = true := by
  fun_induction MemberShape m
  case case1 as pn pr pks nm nr oks =>
    -- the chain starts here: `this`, an identifier that can be a binding, or one that cannot
    rw [jsxMemberToExpr_pair]
    by_cases hthis : nm = "this"
    · right; subst hthis; simp [PrintableMember, memberObj, memberProp_printable]
    · by_cases hv : isValidSymbol nm = true
      · right; simp [PrintableMember, memberObj, hthis, hv, memberProp_printable]
      · left; intro st; simp [memberRootCheck, memberRoot, hthis, hv]
  case case2 => cases h
  case case3 as pn pr pks obj _ _ ih =>
    -- the object is a member tag itself: it has the same first identifier, and its lowering is the object
    obtain ⟨as', obj', pn', pr', pks', rfl⟩ := MemberShape_shape h
    rw [jsxMemberToExpr_pair, memberObj_member]
    rcases ih h with r | r
    · left; intro st
      simpa [memberRootCheck, memberRoot] using r st
    · right
      rw [jsxMemberToExpr_pair] at r ⊢
      simp only [PrintableMember, memberProp_printable, Bool.and_true]
      exact r
  case case4 => cases h

-- a property that is no identifier is printed as a computed string; a first identifier that cannot be a binding is reported
example : MemberShape (.mk .jsxMember [] [.mk .ident ["NS", "b1"] [], .mk .ident ["zz-top"] []]) = true := by simp [MemberShape]
example : PrintableMember (jsxMemberToExpr (.mk .jsxMember [] [.mk .ident ["NS", "b1"] [], .mk .ident ["zz-top"] []])) = true := by
  have h : isValidSymbol "NS" = true := by decide
  rw [jsxMemberToExpr_pair]
  simp [PrintableMember, memberObj, memberProp_printable, h]
example : ReportedTag (.mk .jsxMember [] [.mk .ident ["el-switch", "u"] [], .mk .ident ["Item"] []]) := by
  have h : isValidSymbol "el-switch" = false := by decide
  intro st; simp [memberRootCheck, memberRoot, h]

end VueJsx
