/-
  C13 (continued) — the whole-element cover theorem for the props that directives create:
  `v-html` → `innerHTML`, `v-text` → `textContent`, `v-model` → its listener key (or the full-props bit for a computed
  argument).
-/
import VueJsx.Props.C13

namespace VueJsx

theorem vmodelStep_listener (o : Opts) (c : Bool) (a t m : Option Node) (v : Node) (acc : AttrAcc) :
    (vmodelStep o c a t m v acc).hasDynamicKeys = true ∨
      ∃ s, ("onUpdate:" ++ s) ∈ (vmodelStep o c a t m v acc).dynamicProps := by
  rcases vmodelStep_flags_cases o c a t m v acc with ⟨s, hf⟩ | hf
  · exact .inr ⟨s, by rw [(AttrAcc.flags_eq.mp hf).1]; simp⟩
  · exact .inl (AttrAcc.flags_eq.mp hf).2.2.2.2.2

/-- `v-html` anywhere among the attributes: `innerHTML` is in the element's dynamic-prop list. -/
theorem C13_cover_vhtml (o : Opts) (env : Env) (c : Bool) (pre post : List Node) (as : List String) (nameN valueN : Node) (st : St)
    (hd : isDirectiveAttrName (attrNameOf nameN) = true) (hn : (dirNameParts (attrNameOf nameN)).1 = "html") :
    "innerHTML" ∈ (trAttrs o env c (pre ++ .mk .jsxAttr as [nameN, valueN] :: post) {} st).1.dynamicProps := by
  obtain ⟨l, acc, st', hm⟩ := trAttrs_cover o env c (.mk .jsxAttr as [nameN, valueN]) pre post {} st
  rw [attrStep_directive hd, parseDirective_eq, hn] at hm
  exact hm.2.2.2 _ (by simp [dirAcc])

/-- `v-text` anywhere among the attributes: `textContent` is in the element's dynamic-prop list. -/
theorem C13_cover_vtext (o : Opts) (env : Env) (c : Bool) (pre post : List Node) (as : List String) (nameN valueN : Node) (st : St)
    (hd : isDirectiveAttrName (attrNameOf nameN) = true) (hn : (dirNameParts (attrNameOf nameN)).1 = "text") :
    "textContent" ∈ (trAttrs o env c (pre ++ .mk .jsxAttr as [nameN, valueN] :: post) {} st).1.dynamicProps := by
  obtain ⟨l, acc, st', hm⟩ := trAttrs_cover o env c (.mk .jsxAttr as [nameN, valueN]) pre post {} st
  rw [attrStep_directive hd, parseDirective_eq, hn] at hm
  exact hm.2.2.2 _ (by simp [dirAcc])

/-- `v-model` (and every `v-models` entry, which the opening-element hook turns into `v-model` attributes) anywhere among
    the attributes: the element ends with FULL_PROPS facts (computed argument) or with the listener key in its
    dynamic-prop list. -/
theorem C13_cover_vmodel (o : Opts) (env : Env) (c : Bool) (pre post : List Node) (as : List String) (nameN valueN : Node) (st : St)
    (hd : isDirectiveAttrName (attrNameOf nameN) = true) (hn : (dirNameParts (attrNameOf nameN)).1 = "model") :
    (trAttrs o env c (pre ++ .mk .jsxAttr as [nameN, valueN] :: post) {} st).1.hasDynamicKeys = true ∨
      ∃ s, ("onUpdate:" ++ s) ∈ (trAttrs o env c (pre ++ .mk .jsxAttr as [nameN, valueN] :: post) {} st).1.dynamicProps := by
  obtain ⟨l, acc, st', hm⟩ := trAttrs_cover o env c (.mk .jsxAttr as [nameN, valueN]) pre post {} st
  rw [attrStep_directive hd, parseDirective_eq, hn] at hm
  -- the third test of `parseDirective_eq` is the one that holds
  rw [if_neg (by decide), if_neg (by decide), if_pos (by decide), parseVModel_eq] at hm
  -- `vmodelFinish` returns `.vmodel a t m v`, so `dirAcc` computes to `vmodelStep`; the underscores are `a t m v`
  exact (vmodelStep_listener o c _ _ _ _ acc).elim (fun h => .inl (hm.1 h)) fun ⟨s, h⟩ => .inr ⟨s, hm.2.2.2 _ h⟩

end VueJsx
