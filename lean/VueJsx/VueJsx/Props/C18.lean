/-
  C18 — Parameter defaults become runtime prop defaults without changing them.
  A small semantics of "what Vue resolves for `default`" (`vueResolve`) is composed with the model's two steps
  (`staticDefault`: classification and wrapping; `finalDefault`: the adjustment `emitProp` applies), and shown to
  give the written value for every statically analysable entry kind.
-/
import VueJsx.ResolveType

namespace VueJsx

/-- what a prop's default evaluates to at runtime -/
inductive Resolved where
  | valueOf (e : Node)        -- the value of expression `e` (evaluated in the scope of the call)
  | resultOf (body : Node)    -- what running the block `body` returns
  | callOf (f : Node)         -- what calling the function expression `f` with no arguments returns
  deriving BEq

/-- Vue (`resolvePropValue`: `opt.type !== Function && isFunction(default)`): a default that is a function is called as a
    factory unless the prop's `type` is `Function`; anything else is the value itself.  `isFunctionProp` is Vue's test on
    the emitted `type`. -/
def vueResolve (isFunctionProp : Bool) (d : Node) : Resolved :=
  match d with
  | .mk .arrow _ [_, body, _, _] =>
    if isFunctionProp then .valueOf d else (match body with | .mk .block _ _ => .resultOf body | v => .valueOf v)
  | .mk .fnExpr _ _ => if isFunctionProp then .valueOf d else .callOf d
  | .mk .call _ [.mk .arrow _ [_, .mk .block as ks, _, _], .mk .list _ [], _] => .resultOf (.mk .block as ks)
  | d => .valueOf d

/-- not one of the value forms Vue would itself call or that `vueResolve` gives a special reading -/
def plainValue (v : Node) : Prop :=
  (∀ as ks, v ≠ .mk .arrow as ks) ∧ (∀ as ks, v ≠ .mk .fnExpr as ks) ∧ (∀ as ks, v ≠ .mk .call as ks)

theorem isLit_not_function {v : Node} (h : isLit v = true) : plainValue v := by
  refine ⟨?_, ?_, ?_⟩ <;> rintro as ks rfl <;> simp [isLit] at h

theorem finalDefault_plain (fp : Bool) (v : Node) (b : Bool) (hp : plainValue v) : finalDefault fp v b = v := by
  unfold finalDefault
  split
  · exact absurd rfl (hp.1 _ _)
  · rfl

theorem vueResolve_plain (fp : Bool) (v : Node) (hp : plainValue v) : vueResolve fp v = .valueOf v := by
  unfold vueResolve
  split
  · exact absurd rfl (hp.1 _ _)
  · exact absurd rfl (hp.2.1 _ _)
  · exact absurd rfl (hp.2.2 _ _)
  · rfl

/-- `key: <literal>` is emitted as the literal, with no factory flag, and Vue resolves the literal. -/
theorem C18_literal_as_is (as : List String) (key value k : Node) (fp : Bool)
    (hk : tryUnwrapLitPropName key = some k) (hl : isLit value = true) :
    staticDefault (.mk .kv as [key, value]) = some (k, value, false)
    ∧ finalDefault fp value false = value
    ∧ vueResolve fp (finalDefault fp value false) = .valueOf value := by
  have hp := isLit_not_function hl
  refine ⟨by simp [staticDefault, hk, hl], finalDefault_plain fp value false hp, ?_⟩
  rw [finalDefault_plain fp value false hp, vueResolve_plain fp value hp]

/-- blocks are statements, they cannot be written as a value -/
def notBlock (v : Node) : Prop := ∀ as ks, v ≠ .mk .block as ks

/-- `key: e` becomes the factory `() => e`.  For a prop whose type is not Function, Vue calls the factory and obtains the
    value of `e`. -/
theorem C18_expression_through_factory (as : List String) (key value k : Node)
    (hk : tryUnwrapLitPropName key = some k) (hl : isLit value = false) (hb : notBlock value) :
    staticDefault (.mk .kv as [key, value]) = some (k, nArrow [] value, true)
    ∧ vueResolve false (finalDefault false (nArrow [] value) true) = .valueOf value := by
  refine ⟨by simp [staticDefault, hk, hl], ?_⟩
  simp only [finalDefault, nArrow, Bool.and_false, Bool.false_eq_true, if_false, vueResolve]
  split
  · exact absurd rfl (hb _ _)
  · rfl

/-- Function-typed props receive the written value itself, never a factory around it: here an identifier, a member expression
    or any other expression that is not a function literal. -/
theorem C18_function_prop_gets_value (value : Node) (hb : notBlock value) (hp : plainValue value) :
    finalDefault true (nArrow [] value) true = value
    ∧ vueResolve true (finalDefault true (nArrow [] value) true) = .valueOf value := by
  have h1 : finalDefault true (nArrow [] value) true = value := by
    simp only [finalDefault, nArrow, Bool.and_true, if_true]
    split
    · exact absurd rfl (hb _ _)
    · rfl
  exact ⟨h1, by rw [h1, vueResolve_plain true value hp]⟩

/-- A Function-typed prop whose default is a written arrow function or function expression receives that function; Vue does not
    call it. -/
theorem C18_function_prop_gets_written_function (as : List String) (ks : List Node) :
    finalDefault true (nArrow [] (.mk .arrow as ks)) true = .mk .arrow as ks
    ∧ finalDefault true (nArrow [] (.mk .fnExpr as ks)) true = .mk .fnExpr as ks
    ∧ vueResolve true (.mk .fnExpr as ks) = .valueOf (.mk .fnExpr as ks)
    ∧ (∀ a b c d, ks = [a, b, c, d] → vueResolve true (.mk .arrow as ks) = .valueOf (.mk .arrow as ks)) := by
  refine ⟨rfl, rfl, rfl, ?_⟩
  rintro a b c d rfl; rfl

/-- Shorthand `{ name }` is the expression `name`. -/
theorem C18_shorthand (n b : String) (rest : List String) (ks : List Node) :
    staticDefault (.mk .ident (n :: b :: rest) ks) = some (nIdentName n, nArrow [] (nIdent n b), true)
    ∧ vueResolve false (finalDefault false (nArrow [] (nIdent n b)) true) = .valueOf (nIdent n b)
    ∧ vueResolve true (finalDefault true (nArrow [] (nIdent n b)) true) = .valueOf (nIdent n b) :=
  ⟨rfl, rfl, rfl⟩

/-- `get key() { body }`: Vue obtains what the body returns, whether or not the prop is
    Function-typed (for a Function-typed prop the factory is called in place, because Vue would not call it). -/
theorem C18_getter (as bas : List String) (key mid k : Node) (bks : List Node) (fp : Bool)
    (hk : tryUnwrapLitPropName key = some k) :
    staticDefault (.mk .getterProp as [key, mid, .mk .block bas bks]) = some (k, nArrow [] (.mk .block bas bks), true)
    ∧ vueResolve fp (finalDefault fp (nArrow [] (.mk .block bas bks)) true) = .resultOf (.mk .block bas bks) := by
  refine ⟨by simp [staticDefault, hk], ?_⟩
  cases fp <;> rfl

/-- Methods are emitted as the function itself (`async` and generator flags kept in the atoms), never wrapped. -/
theorem C18_method_is_the_function (as : List String) (key k : Node) (fnKids : List Node) (fp : Bool)
    (hk : tryUnwrapLitPropName key = some k) :
    staticDefault (.mk .methodProp as (key :: fnKids)) = some (k, .mk .fnExpr as (nNone :: fnKids), false)
    ∧ finalDefault fp (.mk .fnExpr as (nNone :: fnKids)) false = .mk .fnExpr as (nNone :: fnKids) :=
  ⟨by simp [staticDefault, hk], rfl⟩

/-- Quoted and unquoted spellings of the same key match. -/
theorem C18_key_spellings_match (a : String) (ar br : List String) (ks1 ks2 : List Node) :
    defaultMatches (.mk .ident (a :: ar) ks1) (.mk .str (a :: br) ks2) = true
    ∧ defaultMatches (.mk .str (a :: ar) ks1) (.mk .ident (a :: br) ks2) = true := by
  simp [defaultMatches]

/-- Not statically analysable: a spread, and a computed key whose expression is not a string/number/bigint literal (so also
    `[ident]`); a spread at the head makes `allStatic` fail. -/
theorem C18_dynamic_forms (as eas : List String) (e value : Node) (eks ks : List Node) (rest : List Node)
    (he : e.kind ≠ .str ∧ e.kind ≠ .num ∧ e.kind ≠ .bigint) :
    staticDefault (.mk .spreadElement as ks) = none
    ∧ staticDefault (.mk .kv as [.mk .computed eas [e], value]) = none
    ∧ allStatic (.mk .spreadElement as ks :: rest) = none := by
  have h2 : tryUnwrapLitPropName (.mk .computed eas [e]) = none := by
    unfold tryUnwrapLitPropName
    simp only
    split
    · exact absurd rfl he.1
    · exact absurd rfl he.2.1
    · exact absurd rfl he.2.2
    · rfl
  let _ := eks                   -- a binder of the statement that nothing uses; this keeps the linter quiet
  simp [allStatic, staticDefault, h2]

/-- one non-static entry anywhere makes `allStatic` fail -/
theorem C18_one_dynamic_entry_suffices (pre post : List Node) (p : Node) (h : staticDefault p = none) :
    allStatic (pre ++ p :: post) = none := by
  induction pre with
  | nil => simp [allStatic, h]
  | cons x xs ih =>
    simp only [List.cons_append, allStatic, ih]
    simp_all

/-- A default that is not an all-static object literal: the declared props, built without defaults, are combined with the default
    expression, unchanged, by `mergeDefaults`. -/
theorem C18_dynamic_goes_through_mergeDefaults (env : Env) (as pas : List String) (params rest : List Node)
    (left d : Node) (ty : Node) (st : St)
    (hty : patTypeAnn 64 (.mk .assignPat pas [left, d]) = some ty)
    (hd' : ∀ oas las props, d = .mk .object oas [.mk .list las props] → allStatic props = none) :
    ∃ md obj st', (extractPropsType env (.mk .arg as [.mk .arrow [] (.mk .list [] (.mk .assignPat pas [left, d] :: params) :: rest)]) st)
      = (some (.mk .call [if env.hasComments then "usr" else "syn"] [md, nList [nArg obj, nArg d], nNone]), st')
      ∧ obj = (buildPropsType (st.importFromVue "mergeDefaults").2 ty none).1 := by
  simp only [extractPropsType, setupParams, Option.bind, List.head?, hty]
  -- the cases of `match defaults, staticDs`; `defaults = some d`
  split
  · -- all static: `hs` gives `allStatic props = some ds`, against `hd'`
    next ds _ hs =>
    rw [Option.map_some] at hs
    split at hs
    · rw [hd' _ _ _ rfl] at hs; cases hs
    · cases hs
  · -- dynamic
    next heq _ => cases heq; exact ⟨_, _, _, rfl, rfl⟩
  · next heq => cases heq              -- no default

/-- Props without a default get none: the lookup `emitProp` performs finds nothing when no entry matches the key (and a
    `default` is added only for an entry found). -/
theorem C18_no_default_no_entry (ds : List (Node × Node × Bool)) (key : Node)
    (h : ∀ d ∈ ds, defaultMatches d.1 key = false) : ds.find? (fun d => defaultMatches d.1 key) = none := by
  simp only [List.find?_eq_none]
  intro d hd; simp [h d hd]

/-- Vue's test `opt.type === Function` on an emitted `type:` expression -/
def vueTypeIsFunction (e : Node) : Bool :=
  match e with
  | .mk .ident ("Function" :: _) _ => true
  | _ => false

/-- The flag by which the model decides whether to hand a default over unwrapped is exactly Vue's own test
    on the `type` that is emitted next to it: a union such as `[String, Function]` is not a Function prop. -/
theorem C18_function_flag_is_vues (types : List RT) : vueTypeIsFunction (typeExprOf types) = isExactlyFunction types := by
  unfold typeExprOf isExactlyFunction
  match types with
  | [] => rfl
  | [none] => rfl
  | [some n] =>
    by_cases h : n = "Function"
    · subst h; rfl
    · simp [rtExpr, nQuoteIdent, nIdent, vueTypeIsFunction, h]
  | a :: b :: rest => simp [vueTypeIsFunction, nArray]

theorem C18_union_with_function_is_not_function_prop :
    isExactlyFunction [some "String", some "Function"] = false ∧ isExactlyFunction [some "Function", none] = false
    ∧ isExactlyFunction [some "Function"] = true := by decide

end VueJsx
