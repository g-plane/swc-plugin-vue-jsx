/-
  C04 (continued) — for whole attribute lists: exactly one runtime directive binding per directive attribute, in source
  order, under the written name; and, on lists without v-model, each binding is a function of its own attribute alone.
-/
import VueJsx.Lemmas.ElementEqs

namespace VueJsx

/-- Specification (property text): the binding one attribute contributes to its vnode's directive list - the written name
    (prefix removed, first letter lower-cased) for every `v-name`/`vName` attribute other than v-html / v-text (props),
    v-slots (slots) and v-model, which is a `model` binding on a form element and a prop on a component.  The case distinction
    is the specification's; the name is read with the model's own `attrNameOf`, `isDirectiveAttrName` and `dirNameParts`. -/
def bindingNameOf (isComp : Bool) (a : Node) : Option String :=
  match a with
  | .mk .jsxAttr _ [nameN, _] =>
    if isDirectiveAttrName (attrNameOf nameN) then
      let d := (dirNameParts (attrNameOf nameN)).1
      if d == "html" || d == "text" || d == "slots" then none
      else if d == "model" then (if isComp then none else some "model")
      else some d
    else none
  | _ => none

theorem vmodelStep_directive_names (o : Opts) (c : Bool) (a t m : Option Node) (v : Node) (acc : AttrAcc) :
    (vmodelStep o c a t m v acc).directives.map (·.1)
      = acc.directives.map (·.1) ++ (if c then [] else ["model"]) := by
  rw [← dirAcc_vmodel, dirAcc_directives]
  cases c <;> simp [dirBinding]

theorem dirBinding_parseDirective (n : AttrName) (v : Node) (c : Bool) (st : St) :
    dirBinding c (parseDirective n v c st).1 =
      if (dirNameParts n).1 == "html" || (dirNameParts n).1 == "text" || (dirNameParts n).1 == "slots" then []
      else if (dirNameParts n).1 == "model" then
        dirBinding c (parseVModel v c ((dirNameParts n).2.1.map nStr) (dirNameParts n).2.2 st).1
      else dirBinding c (normalFinish (dirNameParts n).1 (normalTuple v ((dirNameParts n).2.1.map nStr) (dirNameParts n).2.2)) := by
  rw [parseDirective_eq]
  generalize (dirNameParts n).1 = d
  by_cases h1 : d = "html"
  · simp [h1, dirBinding]
  by_cases h2 : d = "text"
  · simp [h2, dirBinding]
  by_cases h3 : d = "model"
  · simp [h3]
  by_cases h4 : d = "slots"
  · simp [h4, parseVSlots, dirBinding]
  · simp [h1, h2, h3, h4]

theorem attrStep_binding_names (o : Opts) (c : Bool) (a : Node) (l : Option Node) (acc : AttrAcc) (st : St) :
    (attrStep o c a l acc st).1.directives.map (·.1)
      = acc.directives.map (·.1) ++ (bindingNameOf c a).toList := by
  unfold bindingNameOf
  split
  next as nameN v =>
    rw [attrStep_directives_attr, List.map_append]
    congr 1
    dsimp only
    split
    · rw [dirBinding_parseDirective]
      split
      · rfl   -- v-html, v-text, v-slots
      · split
        · rw [parseVModel_eq]   -- v-model: shows the parse as a `.vmodel`
          cases c <;> rfl
        · rfl   -- a custom directive
    · rfl   -- no directive attribute
  next h => rw [attrStep_directives_other (attrParts_none h)]; simp

/-- The names of a vnode's directive bindings are, in source order, exactly one per directive attribute, as the specification
    `bindingNameOf` names them. -/
theorem C04_one_binding_per_directive_in_order (o : Opts) (env : Env) (c : Bool) :
    ∀ (attrs : List Node) (acc : AttrAcc) (st : St),
      (trAttrs o env c attrs acc st).1.directives.map (·.1)
        = acc.directives.map (·.1) ++ attrs.filterMap (bindingNameOf c)
  | attrs, acc, st =>
    trAttrs_collects o env c (fun acc => acc.directives.map (·.1)) (bindingNameOf c) attrs acc st
      fun a _ _ => attrStep_binding_names o c a _

/-- the whole element: `transformAttrs` starts from the empty accumulator -/
theorem C04_element_bindings (o : Opts) (env : Env) (c : Bool) (attrs : List Node) (st : St) :
    (transformAttrs o env attrs c st).1.directives.map (·.1) = attrs.filterMap (bindingNameOf c) := by
  rw [transformAttrs_directives]
  simpa using C04_one_binding_per_directive_in_order o env c attrs {} st

/-- as many bindings as directive attributes that bind -/
theorem C04_binding_count (o : Opts) (env : Env) (c : Bool) (attrs : List Node) (st : St) :
    (transformAttrs o env attrs c st).1.directives.length = (attrs.filter (fun a => (bindingNameOf c a).isSome)).length := by
  have h := congrArg List.length (C04_element_bindings o env c attrs st)
  rwa [List.length_map, List.length_filterMap_eq_countP, List.countP_eq_length_filter] at h

/-- the complete binding (name, argument, modifiers, value) of a runtime directive attribute, as a function of the attribute
    alone; `none` for `v-html`, `v-text`, `v-slots`, `v-model` and for what is no directive attribute -/
def ownBindingOf (a : Node) : Option (String × Option Node × Option Node × Node) :=
  match a with
  | .mk .jsxAttr _ [nameN, v] =>
    if isDirectiveAttrName (attrNameOf nameN) then
      let p := dirNameParts (attrNameOf nameN)
      if p.1 == "html" || p.1 == "text" || p.1 == "slots" || p.1 == "model" then none
      else
        match normalFinish p.1 (normalTuple v (p.2.1.map nStr) p.2.2) with
        | .normal n arg mods x => some (n, arg, mods, x)
        | _ => none
    else none
  | _ => none

def isVModelAttr (a : Node) : Bool :=
  match a with
  | .mk .jsxAttr _ [nameN, _] => isDirectiveAttrName (attrNameOf nameN) && (dirNameParts (attrNameOf nameN)).1 == "model"
  | _ => false

theorem attrStep_own_binding (o : Opts) (c : Bool) (a : Node) (l : Option Node) (acc : AttrAcc) (st : St)
    (hm : isVModelAttr a = false) :
    (attrStep o c a l acc st).1.directives = acc.directives ++ (ownBindingOf a).toList := by
  unfold ownBindingOf
  split
  next as nameN v =>
    rw [attrStep_directives_attr]
    congr 1
    dsimp only
    split
    next hd =>
      have hm' : ((dirNameParts (attrNameOf nameN)).1 == "model") = false := by simpa [isVModelAttr, hd] using hm
      rw [dirBinding_parseDirective, hm', Bool.or_false]
      -- the parse of a custom directive is a `.normal` binding by definition
      split <;> rfl
    next => rfl
  next h => rw [attrStep_directives_other (attrParts_none h)]; simp

/-- On a list without v-model, the vnode's directive bindings - name, argument, modifiers and value - are the concatenation,
    in source order, of what each directive attribute denotes by itself: no binding depends on the visitor state, on an
    option, on the host kind or on a neighbouring attribute. -/
theorem C04_bindings_depend_on_own_attribute_only (o : Opts) (env : Env) (c : Bool) :
    ∀ (attrs : List Node) (acc : AttrAcc) (st : St), (∀ a ∈ attrs, isVModelAttr a = false) →
      (trAttrs o env c attrs acc st).1.directives = acc.directives ++ attrs.filterMap ownBindingOf
  | attrs, acc, st, h =>
    trAttrs_collects o env c (·.directives) ownBindingOf attrs acc st
      fun a ha _ acc st => attrStep_own_binding o c a _ acc st (h a ha)

/-- the whole element: what `withDirectives` receives -/
theorem C04_element_complete_bindings (o : Opts) (env : Env) (c : Bool) (attrs : List Node) (st : St)
    (h : ∀ a ∈ attrs, isVModelAttr a = false) :
    (transformAttrs o env attrs c st).1.directives = attrs.filterMap ownBindingOf := by
  rw [transformAttrs_directives]
  simpa using C04_bindings_depend_on_own_attribute_only o env c attrs {} st h

-- non-vacuity: three bindings on an element, two on a component
private def tA (n : String) : Node := .mk .jsxAttr [] [.mk .ident [n] [], .mk .none [] []]
#guard [tA "v-show", tA "id", tA "vMyDir_a", tA "v-model", tA "v-html", tA "v-slots"].filterMap (bindingNameOf false)
         == ["show", "myDir", "model"]
#guard [tA "v-show", tA "id", tA "vMyDir_a", tA "v-model", tA "v-html", tA "v-slots"].filterMap (bindingNameOf true)
         == ["show", "myDir"]
#guard (transformAttrs {} default [tA "v-show", tA "id", tA "vMyDir_a", tA "v-model", tA "v-html"] false default).1.directives.map (·.1)
         == ["show", "myDir", "model"]

#guard ([tA "v-show", tA "id", tA "vMyDir_a", tA "v-html"].filterMap ownBindingOf).map (·.1) == ["show", "myDir"]
#guard [tA "v-show", tA "id", tA "vMyDir_a", tA "v-html"].all (fun a => !isVModelAttr a)

end VueJsx
