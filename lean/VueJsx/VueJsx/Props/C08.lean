/-
  C08 — The transform is total and deterministic.
  Totality of the model is Lean's own: every function of the transform is a total function accepted by the kernel
  (no `partial`, no `unsafe`); the only non-structural recursion (type resolution through the user's registry) is
  bounded by fuel = the real code's MAX_TYPE_RESOLUTION_DEPTH, and exhaustion is a diagnostic.
-/
import VueJsx.ResolveType
import VueJsx.Lemmas.Reports

namespace VueJsx

theorem err_keeps_panicked (st : St) (m : String) : (st.err m).panicked = st.panicked := rfl

/-- `v-html` / `v-text` never crash, whatever the attribute value is. -/
theorem C08_vhtml_vtext_no_panic (what : String) (value : Node) (st : St) :
    (vHtmlOrText what value st).2.panicked = st.panicked :=
  (vHtmlOrText_reports what value st).panicked

/-- A `v-html` / `v-text` value that is neither a string nor an expression container is reported. -/
theorem C08_vhtml_bad_value_reported (what : String) (value : Node) (st : St)
    (h1 : ∀ a k, value ≠ .mk .str a k) (h2 : containerExpr value = none) :
    (vHtmlOrText what value st).2.diags = st.diags ++ ["Error: You have to use JSX Expression inside your `v-" ++ what ++ "`."] := by
  unfold vHtmlOrText
  split
  · rename_i a k; exact absurd rfl (h1 a k)
  · simp [h2, St.err]

/-- `v-model` never crashes, whatever value, argument and modifiers it has. -/
theorem C08_vmodel_no_panic (value : Node) (isComp : Bool) (arg : Option Node) (rest : List String) (st : St) :
    (parseVModel value isComp arg rest st).2.panicked = st.panicked :=
  (parseVModel_reports value isComp arg rest st).panicked

/-- No directive spelling or value shape makes directive parsing crash. -/
theorem C08_parseDirective_no_panic (name : AttrName) (value : Node) (isComp : Bool) (st : St) :
    (parseDirective name value isComp st).2.panicked = st.panicked :=
  (parseDirective_reports name value isComp st).panicked

/-- When the nesting bound of type resolution is reached the result is a diagnostic, not a crash
    (circular aliases and interfaces end here), and the resolution in progress is marked as given up. -/
theorem C08_depth_bound_is_diagnostic (st : St) (ty obj idx : Node) (hg : st.typeGaveUp = false) :
    resolveElements 0 st ty = ([], { st.err tooDeep with typeGaveUp := true }) ∧ resolveStrings 0 st ty = ([], { st.err tooDeep with typeGaveUp := true })
    ∧ resolveIndexed 0 st obj idx = (none, { st.err tooDeep with typeGaveUp := true }) ∧ inferRuntime 0 st ty = ([], { st.err tooDeep with typeGaveUp := true }) := by
  refine ⟨?_, ?_, ?_, ?_⟩ <;> simp [resolveElements, resolveStrings, resolveIndexed, inferRuntime, giveUp, hg]

/-- Once a resolution has given up, every nested step returns at once, without reporting again and without exploring
    anything: a self-referential union such as `type T = T | T` costs one descent to the bound, not 2^64 of them.
    (`fuel + 1 ≠ 64`: not a start, 64 being `FUEL`.) -/
theorem C08_given_up_resolution_unwinds (fuel : Nat) (st : St) (ty obj idx : Node) (hf : fuel + 1 ≠ 64) (hg : st.typeGaveUp = true) :
    resolveElements (fuel + 1) st ty = ([], st) ∧ resolveStrings (fuel + 1) st ty = ([], st)
    ∧ resolveIndexed (fuel + 1) st obj idx = (none, st) ∧ inferRuntime (fuel + 1) st ty = ([], st) := by
  have he : enterRes fuel st = none := by
    unfold enterRes
    have : (fuel + 1 == 64) = false := by simpa using hf
    simp [this, hg]
  refine ⟨?_, ?_, ?_, ?_⟩ <;> simp [resolveElements, resolveStrings, resolveIndexed, inferRuntime, he]

/-- A resolution that starts (fuel 63 + 1 = `FUEL`, nesting depth 0) forgets an earlier give-up: one circular type does
    not silence the next call. -/
theorem C08_new_resolution_starts_afresh (st : St) : enterRes 63 st = some { st with typeGaveUp := false } := by
  simp [enterRes]

-- circular declarations end with the diagnostic
#guard (resolveElements FUEL { typeAliases := [(("T", "b2"), .mk .tsTypeRef [] [nIdent "T" "b2", nNone])] }
          (.mk .tsTypeRef [] [nIdent "T" "b2", nNone])).2.diags == [tooDeep]
#guard (resolveElements FUEL { typeAliases := [(("T", "b2"), .mk .tsTypeRef [] [nIdent "T" "b2", nNone])] }
          (.mk .tsTypeRef [] [nIdent "T" "b2", nNone])).2.panicked == none

end VueJsx
