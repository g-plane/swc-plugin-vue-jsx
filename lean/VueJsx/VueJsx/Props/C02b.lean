/-
  C02 (continued) — for all strings the cleaned text is the JSX rule applied to the text's lines.  `toLines` decomposes a
  text into its first line and (line break, line) pairs; it is specification, written independently of the scanner
  `splitAux` that models Rust's `util::transform_text`.  Second part: children are lowered in source order, each on its own
  (`C02_children_in_order`).
-/
import VueJsx.Lemmas.TextLemmas
import VueJsx.Lemmas.ElementEqs
namespace VueJsx
open Text

/-- a line break as written; CR LF is one -/
inductive Brk | lf | cr | crlf
deriving DecidableEq, Repr

def Brk.chars : Brk → List Char
  | .lf => ['\n'] | .cr => ['\r'] | .crlf => ['\r', '\n']

/-- a text written as its lines: the first line, then (line break, line) pairs -/
def glue (l0 : List Char) : List (Brk × List Char) → List Char
  | [] => l0
  | (b, l) :: rest => l0 ++ b.chars ++ glue l rest

/-- the first break is an LF (a CR just before would absorb it) -/
def headIsLf : List (Brk × List Char) → Bool
  | (.lf, _) :: _ => true
  | _ => false

/-- the one ambiguity of the notation: a lone CR, an empty line, then LF is the text `\r\n`, which is one break -/
def unambiguous : List (Brk × List Char) → Bool
  | [] => true
  | p :: rest => !(p.1 == .cr && p.2.isEmpty && headIsLf rest) && unambiguous rest

theorem glue_cons (x : Char) (l : List Char) (rest : List (Brk × List Char)) : glue (x :: l) rest = x :: glue l rest := by
  cases rest <;> rfl

theorem head?_glue_ne_lf {l : List Char} {rest : List (Brk × List Char)} (hl : noBreak l)
    (hu : unambiguous ((.cr, l) :: rest) = true) : (glue l rest).head? ≠ some '\n' := by
  cases l with
  | cons y ys =>
    -- the text starts with `y`, which is no break
    rw [glue_cons, List.head?_cons]
    rintro ⟨rfl⟩
    exact absurd (hl '\n' (.head _)) (by decide)
  | nil =>
    match rest with
    | [] => simp [glue]
    | (.lf, _) :: _ => simp [unambiguous, headIsLf] at hu
    | (.cr, _) :: _ => simp [glue, Brk.chars]
    | (.crlf, _) :: _ => simp [glue, Brk.chars]

/-- A text written as lines without breaks joined by `\n`, `\r` or `\r\n` is split into exactly those lines. -/
theorem splitLines_glue (l0 : List Char) (rest : List (Brk × List Char))
    (h0 : noBreak l0) (hr : ∀ p ∈ rest, noBreak p.2) (hu : unambiguous rest = true) :
    splitLines (glue l0 rest) = l0 :: rest.map Prod.snd := by
  induction rest generalizing l0 with
  | nil => exact splitAux_no_break false l0 h0
  | cons p rest ih =>
    obtain ⟨br, l⟩ := p
    have hl : noBreak l := hr (br, l) (by simp)
    have ih := ih l hl (fun p hp => hr p (by simp [hp])) (by simp [unambiguous] at hu; exact hu.2)
    rw [splitLines] at ih ⊢
    rw [glue, List.append_assoc]
    -- the first line ends at the break, whichever it is; the scanner goes on in the ordinary state: by computation after LF and
    -- CR LF (the LF is taken as the CR's), after a lone CR because no LF follows
    cases br <;> rw [Brk.chars, List.cons_append, splitAux_line h0 (by decide)]
    · exact congrArg (l0 :: ·) ih
    · exact congrArg (l0 :: ·) ((splitAux_true (head?_glue_ne_lf hl hu)).trans ih)
    · exact congrArg (l0 :: ·) ih

theorem cleanText_glue (l0 : List Char) (rest : List (Brk × List Char))
    (h0 : noBreak l0) (hr : ∀ p ∈ rest, noBreak p.2) (hu : unambiguous rest = true) :
    cleanText (glue l0 rest) = jsxRule (l0 :: rest.map Prod.snd) := by
  rw [cleanText_eq_jsxRule, splitLines_glue l0 rest h0 hr hu]

/-- from the right: a character joins the first line, a break opens a new one, CR before (empty line, LF) makes CRLF -/
def toLines : List Char → List Char × List (Brk × List Char)
  | [] => ([], [])
  | x :: xs =>
    let r := toLines xs
    if x == '\n' then ([], (.lf, r.1) :: r.2)
    else if x == '\r' then
      (match r.1, r.2 with
       | [], (.lf, l) :: rest => ([], (.crlf, l) :: rest)
       | _, _ => ([], (.cr, r.1) :: r.2))
    else (x :: r.1, r.2)

theorem toLines_spec (s : List Char) :
    glue (toLines s).1 (toLines s).2 = s ∧ noBreak (toLines s).1 ∧ (∀ p ∈ (toLines s).2, noBreak p.2) ∧
      unambiguous (toLines s).2 = true := by
  induction s with
  | nil => simp [toLines, glue, noBreak, unambiguous]
  | cons x xs ih =>
    obtain ⟨hg, h1, h2, h3⟩ := ih
    have h12 (b : Brk) : ∀ p ∈ (b, (toLines xs).1) :: (toLines xs).2, noBreak p.2 := List.forall_mem_cons.2 ⟨h1, h2⟩
    unfold toLines
    dsimp only
    split
    next hx =>                     -- LF
      obtain rfl : x = '\n' := by simpa using hx
      exact ⟨by simp [glue, Brk.chars, hg], by simp [noBreak], h12 _, by simpa [unambiguous] using h3⟩
    next hlf =>
      split
      next hx =>
        obtain rfl : x = '\r' := by simpa using hx
        split
        next l rest e1 e2 =>       -- CR before LF: CRLF
          rw [e1, e2] at hg; rw [e2] at h2 h3
          obtain ⟨hl, hrest⟩ := List.forall_mem_cons.1 h2
          exact ⟨by simpa [glue, Brk.chars] using hg, by simp [noBreak], List.forall_mem_cons.2 ⟨hl, hrest⟩,
            by simpa [unambiguous] using h3⟩
        next hne =>                -- lone CR
          refine ⟨by simp [glue, Brk.chars, hg], by simp [noBreak], h12 _, ?_⟩
          -- before an empty line and an LF it would have been read as one CRLF
          unfold unambiguous headIsLf
          split
          next l rest e2 =>
            cases e1 : (toLines xs).1 with
            | nil => exact absurd e2 (hne l rest e1)
            | cons => simpa using h3
          next => simpa using h3
      next hcr =>                  -- ordinary character
        have hx : isBreak x = false := by rw [isBreak, eq_false_of_ne_true hlf, eq_false_of_ne_true hcr]; rfl
        exact ⟨by rw [glue_cons, hg], List.forall_mem_cons.2 ⟨hx, h1⟩, h2, h3⟩

/-- For all strings the cleaned text is `jsxRule` applied to the lines `toLines` finds.  `jsxRule` is the model's own stages
    after the split; the content is that the model's splitter `splitLines` finds exactly the lines of `toLines`, which is
    written independently of it. -/
theorem C02_text_is_the_jsx_rule (s : List Char) :
    cleanText s = jsxRule ((toLines s).1 :: (toLines s).2.map Prod.snd) := by
  obtain ⟨hg, h1, h2, h3⟩ := toLines_spec s
  rw [← cleanText_glue _ _ h1 h2 h3, hg]

example : toLines " a\r\n   b\t".toList = (" a".toList, [(.crlf, "   b\t".toList)]) := by decide
example : toLines "x\r\r\ny".toList = ("x".toList, [(.cr, []), (.crlf, "y".toList)]) := by decide
example : jsxRule [" a".toList, "   b\t".toList] = " a b ".toList := by decide
example : unambiguous [(.cr, []), (.lf, [])] = false := by decide

/-- the child shapes the parser produces -/
def childOk : Node → Bool
  | .mk .jsxText (_ :: _) _ => true
  | .mk .jsxExprContainer _ [_] => true
  | .mk .jsxSpreadChild _ [_] => true
  | .mk .jsxElement _ _ => true
  | .mk .jsxFragment _ _ => true
  | _ => false

theorem childView_ne_bad {c : Node} (h : childOk c = true) : childView c ≠ .bad := by
  unfold childOk at h
  split at h
  · simp [childView]
  · simp only [childView]; split <;> simp
  · simp [childView]
  · simp [childView]
  · simp [childView]
  · cases h

/-- Children are delivered in source order, each contributing on its own: lowering `a ++ b` is lowering `a`, then `b` in the
    state `a` left behind, and concatenating the results.  `ha`: an ill-formed child's panic is recorded after the rest of the
    list was lowered, and `St.panic` keeps the first message; without it the two sides can end with different messages. -/
theorem C02_children_in_order (o : Opts) (env : Env) (a b : List Node) (st : St) (ha : ∀ c ∈ a, childOk c = true) :
    trChildList o env (a ++ b) st =
      ((trChildList o env a st).1 ++ (trChildList o env b (trChildList o env a st).2).1,
       (trChildList o env b (trChildList o env a st).2).2) := by
  induction a generalizing st with
  | nil => simp [trChildList_nil]
  | cons c rest ih =>
    have ih := fun st => ih st (fun x hx => ha x (by simp [hx]))
    rw [List.cons_append, trChildList_cons, trChildList_cons]
    cases hv : childView c <;> simp only [ih]
    case bad => exact absurd hv (childView_ne_bad (ha c (by simp)))
    case text => split <;> rfl
    all_goals rfl

example : ∀ c ∈ [Node.mk .jsxText ["a "] [], .mk .jsxExprContainer [] [.mk .ident ["x", "u"] []]], childOk c = true := by decide

end VueJsx
