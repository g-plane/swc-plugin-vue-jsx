/-
  C11 — Embedded expressions are evaluated once, in source order, slot content lazily.
  JavaScript evaluates call arguments, array elements and object-literal entries left to right; the theorems show
  that the model emits the user's expressions into those positions in source order, each once, and component
  children only inside the slot function.
-/
import VueJsx.Props.C03
import VueJsx.Lemmas.ElementEqs

namespace VueJsx

theorem plainAttrFlags_frame (isComp : Bool) (name : String) (v : Node) (t : Bool) (acc : AttrAcc) :
    (plainAttrFlags isComp name v t acc).props = acc.props ∧ (plainAttrFlags isComp name v t acc).mergeArgs = acc.mergeArgs :=
  have h := (flagOnly_plainAttrFlags isComp name v t).frame acc
  ⟨h.1, h.2.1⟩

/-- A plain attribute (not a directive, not a transformOn `on`) is appended at the end of the pending props with its
    value expression used once; nothing already emitted is reordered. -/
theorem C11_plain_attr_appended (o : Opts) (isComp : Bool) (nameN valueN : Node) (as : List String) (acc : AttrAcc) (st : St)
    (s : String) (hname : attrNameOf nameN = .plain s) (hnd : isDirectiveAttrName (.plain s) = false)
    (hon : (o.transformOn && (s == "on" || s == "nativeOn")) = false) :
    let r := (attrStep o isComp (.mk .jsxAttr as [nameN, valueN]) none acc st).1
    r.props = acc.props ++ [nKV (nStr s) (attrValueExpr valueN none st).1] ∧ r.mergeArgs = acc.mergeArgs := by
  have hn : attrNameText nameN = s := by rw [attrNameText, hname]
  have h := AttrAcc.content_eq.mp (plainCore_content_off o isComp s valueN none acc st hon)
  rw [attrStep_plain (hname ▸ hnd), hn]
  exact ⟨h.1, h.2.1⟩

/-- A transformOn `on` object: the attributes written before it are merged first (flushed as their own layer), then
    the listeners — source order is kept. -/
theorem C11_transformOn_after_earlier_attrs (o : Opts) (isComp : Bool) (nameN valueN : Node) (as : List String) (acc : AttrAcc) (st : St)
    (p : Node) (ps : List Node) (h : Node)
    (hname : attrNameOf nameN = .plain "on") (hon : o.transformOn = true) (hp : acc.props = p :: ps)
    (hh : st.transformOnHelper = some h) :
    let r := (attrStep o isComp (.mk .jsxAttr as [nameN, valueN]) none acc st).1
    r.props = [] ∧ r.mergeArgs = acc.mergeArgs ++ [nObject (if o.mergeProps then dedupeProps (p :: ps) else p :: ps),
                                                   nCall h [nArg (attrValueExpr valueN none st).1]] := by
  have hf := plainAttrFlags_frame isComp "on" valueN true acc
  have hv : (attrValueExpr valueN none st).2.transformOnHelper = st.transformOnHelper := by
    rcases attrValueExpr_snd valueN none st with h | h <;> rw [h]
    -- the state is `st` (closed by `rw`) or `st.panic _`, and `St.panic` writes `panicked` only
    unfold St.panic
    split <;> rfl
  have hn : attrNameText nameN = "on" := by rw [attrNameText, hname]
  rw [attrStep_plain (hname ▸ rfl), hn]
  -- the `on` arm of `plainCore`: the helper exists (`hv`, `hh`); the flags leave props and merge arguments alone (`hf`)
  simp [plainCore, hon, tonHelper, hv, hh, hf.1, hf.2, hp]

/-- Children are emitted in source order, each expression once: an expression container contributes exactly its
    expression, followed by the lowering of the remaining children. -/
theorem C11_child_expression_in_order (o : Opts) (env : Env) (e : Node) (cas : List String) (rest : List Node) (st : St)
    (hopt : o.optimize = false) (hne : ∀ a k, e ≠ .mk .jsxEmpty a k) :
    trChildList o env (.mk .jsxExprContainer cas [e] :: rest) st
      = (nArg e :: (trChildList o env rest st).1, (trChildList o env rest st).2) := by
  rw [trChildList_cons, childView_expr cas hne]
  simp [fillIfBound, hopt]

/-- The children of a component are placed only inside the body of the `default` slot function: nothing of them is
    evaluated when the vnode is created. -/
theorem C11_component_children_lazy (o : Opts) (elems : List Node) (flag : Nat) (ho : o.optimize = false) :
    wrapChildren o elems flag none = nObject [nKV (nIdentName "default") (nArrow [] (nArray elems))] :=
  C03_wrap_shape o elems flag ho

/-- A sole call child of a component is evaluated exactly once, at creation: it occurs once, as the right-hand side of
    the assignment to a fresh temporary inside the runtime test; both branches only mention the temporary. -/
theorem C11_call_child_once (o : Opts) (cas aas : List String) (cks : List Node) (slots : Option Node) (flag : Nat)
    (st : St) (h : Node) (he : o.enableObjectSlots = true) (hl : st.assignmentLeft = none) (hh : st.slotHelper = some h) :
    let slot := (genSlotIdent st).1
    (finishChildren o [.mk .arg aas [.mk .call ("usr" :: cas) cks]] true slots flag st).1
      = nCond (nCall h [nArg (nAssignParen slot (.mk .call ("usr" :: cas) cks))]) slot (wrapChildren o [nArg slot] flag slots) :=
  C03_call_once o cas aas cks slots flag st h he hl hh

/-- For a fragment: the lowering is a call with exactly three arguments, the second of them `null` (a fragment has no
    props); the first and the third (`Fragment` and the children) are left existential.  Elements are not covered. -/
theorem C11_fragment_argument_order (o : Opts) (env : Env) (as1 as2 : List String) (op cl : Node) (children : List Node) (st : St) :
    ∃ callee tag kids st', trFragment o env (.mk .jsxFragment as1 [op, .mk .list as2 children, cl]) st
      = (nCall callee [nArg tag, nArg nNull, nArg kids], st') := by
  rw [trFragment_eq]
  exact ⟨_, _, _, _, rfl⟩

end VueJsx
