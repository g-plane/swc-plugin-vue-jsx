/-
  C17 — Inferred runtime prop types accept every value of the declared TS type.
  The atom tables and single arms of `inferRuntime`, and soundness over a grammar `Ty` of types built from the atoms (keywords,
  literal types, function, array and tuple types, built-in classes, object literal types) by union, parentheses, optionality and
  NonNullable, nested to any depth, with its inhabitants (`Inhabits`) and Vue's check of a `type` list (`vueAccepts`).
  `Ty`, `Inhabits`, `vueAccepts` are a specification local to this file, about values.  The refinement theorem of Props/C17c is about
  another, TypeSpec's constructor lists `ctorsOfType`, on all type nodes.  Nothing links the two.
-/
import VueJsx.Lemmas.ResolveEqs

namespace VueJsx

theorem C17_keyword_table (fuel : Nat) (st : St) (as : List String) (ks : List Node) (hg : st.typeGaveUp = false) :
    inferRuntime (fuel + 1) st (.mk .tsKeyword ["string"] ks) = ([some "String"], st)
    ∧ inferRuntime (fuel + 1) st (.mk .tsKeyword ["number"] ks) = ([some "Number"], st)
    ∧ inferRuntime (fuel + 1) st (.mk .tsKeyword ["boolean"] ks) = ([some "Boolean"], st)
    ∧ inferRuntime (fuel + 1) st (.mk .tsKeyword ["object"] ks) = ([some "Object"], st)
    ∧ inferRuntime (fuel + 1) st (.mk .tsKeyword ["bigint"] ks) = ([some "BigInt"], st)
    ∧ inferRuntime (fuel + 1) st (.mk .tsKeyword ["symbol"] ks) = ([some "Symbol"], st)
    ∧ inferRuntime (fuel + 1) st (.mk .tsKeyword ["null"] ks) = ([none], st)
    ∧ inferRuntime (fuel + 1) st (.mk .tsKeyword ["any"] ks) = ([some ANY_TYPE], st)
    ∧ inferRuntime (fuel + 1) st (.mk .tsKeyword ["unknown"] ks) = ([some ANY_TYPE], st) := by
  let _ := as                    -- a binder of the statement that nothing uses; this keeps the linter quiet
  simp only [inferRuntime_keyword hg]
  exact ⟨rfl, rfl, rfl, rfl, rfl, rfl, rfl, rfl, rfl⟩

theorem C17_structural_table (fuel : Nat) (st : St) (as : List String) (ks : List Node) (hg : st.typeGaveUp = false) :
    inferRuntime (fuel + 1) st (.mk .tsFnType as ks) = ([some "Function"], st)
    ∧ inferRuntime (fuel + 1) st (.mk .tsCtorType as ks) = ([some "Function"], st)
    ∧ inferRuntime (fuel + 1) st (.mk .tsArray as ks) = ([some "Array"], st)
    ∧ inferRuntime (fuel + 1) st (.mk .tsTuple as ks) = ([some "Array"], st) := by
  simp [inferRuntime, enterRes_ok hg]

theorem C17_literal_table (fuel : Nat) (st : St) (as las : List String) (lks : List Node) (hg : st.typeGaveUp = false) :
    inferRuntime (fuel + 1) st (.mk .tsLitType as [.mk .str las lks]) = ([some "String"], st)
    ∧ inferRuntime (fuel + 1) st (.mk .tsLitType as [.mk .bool las lks]) = ([some "Boolean"], st)
    ∧ inferRuntime (fuel + 1) st (.mk .tsLitType as [.mk .num las lks]) = ([some "Number"], st) := by
  simp [inferRuntime, enterRes_ok hg]

/-- Built-in classes map to themselves (when the name is not shadowed by a local alias or interface). -/
theorem C17_builtin_class (fuel : Nat) (st : St) (n b : String) (ir as : List String) (iks : List Node) (tp : Node)
    (h1 : lookupReg st.typeAliases (n, b) = none) (h2 : lookupReg st.interfaces (n, b) = none)
    (hn : ["Array", "Function", "Object", "Set", "Map", "WeakSet", "WeakMap", "Date", "Promise", "Error", "RegExp"].contains n = true)
    (hg : st.typeGaveUp = false) :
    inferRuntime (fuel + 1) st (.mk .tsTypeRef as [.mk .ident (n :: b :: ir) iks, tp]) = ([some n], st) := by
  simp only [inferRuntime, h1, h2, hn, enterRes_ok hg]
  simp

/-- What an earlier union member contributed stays in front of what a later member adds. -/
theorem C17_union_order (xs ys : List RT) (a b : RT) (ha : a ∈ xs) (hb : b ∉ xs) (hb' : b ∈ rtExtend xs ys) :
    ∃ pre post, rtExtend xs ys = pre ++ post ∧ a ∈ pre ∧ b ∈ post ∧ b ∉ pre := by
  obtain ⟨zs, hz⟩ := rtExtend_prefix xs ys
  exact ⟨xs, zs, hz, ha, (List.mem_append.mp (hz ▸ hb')).resolve_left hb, hb⟩

/-- kinds of JavaScript values as far as Vue's prop validation distinguishes them -/
inductive ValKind where
  | string | number | boolean | bigint | symbol | function | array | plainObject | null
  | instanceOf (cls : String)
  deriving DecidableEq, Repr

inductive Ty where
  | kw (k : String)                    -- string number boolean object bigint symbol null any unknown
  | strLit | numLit | boolLit
  | fn | array | tuple
  | cls (n : String)
  | obj (ms : List Bool)               -- an object literal type; per member: is it a call signature (true) or a property (false)
  | union (ts : List Ty)
  | paren (t : Ty)
  | optional (t : Ty)
  | nonNull (t : Ty)

def builtinClassNames : List String :=
  ["Array", "Function", "Object", "Set", "Map", "WeakSet", "WeakMap", "Date", "Promise", "Error", "RegExp"]

def memNode (call : Bool) : Node :=
  if call then .mk .tsCallSig [] [nList [], nNone, nNone] else .mk .tsPropSig ["false", "false", "false"] [nIdentName "a", nNone]

def objRt (ms : List Bool) : List RT :=
  orObject (ms.foldl (fun acc c => rtInsert (some (if c then "Function" else "Object")) acc) [])

mutual
def Ty.toNode : Ty → Node
  | .kw k => .mk .tsKeyword [k] []
  | .obj ms => .mk .tsTypeLit [] [nList (ms.map memNode)]
  | .strLit => .mk .tsLitType [] [.mk .str ["s"] []]
  | .numLit => .mk .tsLitType [] [.mk .num ["1"] []]
  | .boolLit => .mk .tsLitType [] [.mk .bool ["true"] []]
  | .fn => .mk .tsFnType [] [nList [], nNone, nNone]
  | .array => .mk .tsArray [] [.mk .tsKeyword ["string"] []]
  | .tuple => .mk .tsTuple [] [nList []]
  | .cls n => .mk .tsTypeRef [] [nIdent n "u", nNone]
  | .union ts => .mk .tsUnion [] [nList (Ty.toNodes ts)]
  | .paren t => .mk .tsParen [] [t.toNode]
  | .optional t => .mk .tsOptional [] [t.toNode]
  | .nonNull t => .mk .tsTypeRef [] [nIdent "NonNullable" "u", .mk .tsTypeParamInst [] [nList [t.toNode]]]
def Ty.toNodes : List Ty → List Node
  | [] => []
  | t :: ts => t.toNode :: Ty.toNodes ts
end

mutual
def Ty.rt : Ty → List RT
  | .kw k => kwRt k
  | .strLit => [some "String"]
  | .numLit => [some "Number"]
  | .boolLit => [some "Boolean"]
  | .fn => [some "Function"]
  | .array => [some "Array"]
  | .tuple => [some "Array"]
  | .cls n => [some n]
  | .obj ms => objRt ms
  | .union ts => Ty.rtUnion ts []
  | .paren t => t.rt
  | .optional t => t.rt
  | .nonNull t => t.rt.filter (·.isSome)
def Ty.rtUnion : List Ty → List RT → List RT
  | [], acc => acc
  | t :: ts, acc => Ty.rtUnion ts (rtExtend acc t.rt)
end

mutual
def Ty.wf : Ty → Bool
  | .cls n => builtinClassNames.contains n
  | .union ts => Ty.wfL ts
  | .paren t => t.wf
  | .optional t => t.wf
  | .nonNull t => t.wf
  | _ => true
def Ty.wfL : List Ty → Bool
  | [] => true
  | t :: ts => t.wf && Ty.wfL ts
end

mutual
def Ty.depth : Ty → Nat
  | .union ts => 1 + Ty.depthL ts
  | .paren t => 1 + t.depth
  | .optional t => 1 + t.depth
  | .nonNull t => 1 + t.depth
  | _ => 1
def Ty.depthL : List Ty → Nat
  | [] => 0
  | t :: ts => max t.depth (Ty.depthL ts)
end

/-- which value kinds inhabit a type of the grammar (TypeScript's meaning; for `object` the inhabitants Vue's
    `Object` check is specified for: plain objects, arrays and class instances) -/
inductive Inhabits : ValKind → Ty → Prop where
  | string : Inhabits .string (.kw "string")
  | number : Inhabits .number (.kw "number")
  | boolean : Inhabits .boolean (.kw "boolean")
  | bigint : Inhabits .bigint (.kw "bigint")
  | symbol : Inhabits .symbol (.kw "symbol")
  | null : Inhabits .null (.kw "null")
  | objPlain : Inhabits .plainObject (.kw "object")
  | objArray : Inhabits .array (.kw "object")
  | objInstance (c : String) : Inhabits (.instanceOf c) (.kw "object")
  | any (v : ValKind) : Inhabits v (.kw "any")
  | unknown (v : ValKind) : Inhabits v (.kw "unknown")
  | strLit : Inhabits .string .strLit
  | numLit : Inhabits .number .numLit
  | boolLit : Inhabits .boolean .boolLit
  | fn : Inhabits .function .fn
  | array : Inhabits .array .array
  | tuple : Inhabits .array .tuple
  | cls (n : String) : Inhabits (.instanceOf n) (.cls n)
  | litPlain (ms : List Bool) : ms.all (!·) = true → Inhabits .plainObject (.obj ms)    -- incl. `{}`
  | litCallable (ms : List Bool) : true ∈ ms → Inhabits .function (.obj ms)
  | union (v : ValKind) (t : Ty) (ts : List Ty) : t ∈ ts → Inhabits v t → Inhabits v (.union ts)
  | paren (v : ValKind) (t : Ty) : Inhabits v t → Inhabits v (.paren t)
  | optional (v : ValKind) (t : Ty) : Inhabits v t → Inhabits v (.optional t)
  | nonNull (v : ValKind) (t : Ty) : v ≠ .null → Inhabits v t → Inhabits v (.nonNull t)

/-- Vue's `assertType` for one entry of `type` (null entry: the value null; `Object`: `isObject`) -/
def acceptsOne (t : RT) (v : ValKind) : Bool :=
  match t, v with
  | some "String", .string => true
  | some "Number", .number => true
  | some "Boolean", .boolean => true
  | some "BigInt", .bigint => true
  | some "Symbol", .symbol => true
  | some "Function", .function => true
  | some "Array", .array => true
  | some "Object", .plainObject => true
  | some "Object", .array => true
  | some c, .instanceOf d => c == d || c == "Object"
  | none, .null => true
  | _, _ => false

/-- Vue's check of the emitted `type`: `any`/`unknown` anywhere (marker) means no check at all -/
def vueAccepts (ts : List RT) (v : ValKind) : Bool :=
  ts.contains (some ANY_TYPE) || ts.any (acceptsOne · v)

theorem vueAccepts_iff {ts : List RT} {v : ValKind} :
    vueAccepts ts v = true ↔ some ANY_TYPE ∈ ts ∨ ∃ t ∈ ts, acceptsOne t v = true := by
  simp [vueAccepts]

theorem vueAccepts_of_subset {xs ys : List RT} {v : ValKind} (hsub : ∀ t ∈ xs, t ∈ ys) (h : vueAccepts xs v = true) :
    vueAccepts ys v = true :=
  vueAccepts_iff.2 ((vueAccepts_iff.1 h).imp (hsub _) fun ⟨t, ht, hv⟩ => ⟨t, hsub t ht, hv⟩)

theorem vueAccepts_of_mem {t : RT} {ts : List RT} {v : ValKind} (ht : t ∈ ts) (h : acceptsOne t v = true) :
    vueAccepts ts v = true :=
  vueAccepts_iff.2 (.inr ⟨t, ht, h⟩)

/-- registries in which no name resolves (the grammar has no user-declared names) -/
def NoReg (st : St) : Prop :=
  (∀ key, lookupReg st.typeAliases key = none ∧ lookupReg st.interfaces key = none) ∧ st.typeGaveUp = false

theorem memberRuntime_mems (ms : List Bool) : orObject (memberRuntime (ms.map memNode)) = objRt ms := by
  rw [objRt, memberRuntime, List.foldl_map]
  congr
  funext acc c
  cases c <;> rfl

theorem mem_objRt {ms : List Bool} {c : Bool} (h : c ∈ ms) : some (if c then "Function" else "Object") ∈ objRt ms := by
  have hm := (mem_rtExtend (xs := [])).mpr
    (.inr (List.mem_map_of_mem (f := fun c => some (if c then "Function" else "Object")) h))
  rw [rtExtend, List.foldl_map] at hm      -- the fold is `rtExtend [] (ms.map …)` unfolded
  unfold objRt orObject
  split
  · next he => rw [List.isEmpty_iff.mp he] at hm; cases hm
  · exact hm

mutual
theorem inferRuntime_eq_rt : ∀ (t : Ty) (fuel : Nat) (st : St), t.wf = true → NoReg st → t.depth ≤ fuel →
    inferRuntime fuel st t.toNode = (t.rt, st)
  | t, 0, _, _, _, hd => by cases t <;> simp [Ty.depth] at hd
  | .kw k, f + 1, st, _, hr, _ => inferRuntime_keyword hr.2
  | .strLit, f + 1, st, _, hr, _ | .numLit, f + 1, st, _, hr, _ | .boolLit, f + 1, st, _, hr, _ => by
    simp only [Ty.toNode, Ty.rt, C17_literal_table f st [] _ [] hr.2]
  | .fn, f + 1, st, _, hr, _ | .array, f + 1, st, _, hr, _ | .tuple, f + 1, st, _, hr, _ => by
    simp only [Ty.toNode, Ty.rt, C17_structural_table f st [] _ hr.2]
  | .cls n, f + 1, st, hw, hr, _ => by
    have hn : builtinClassNames.contains n = true := by simpa only [Ty.wf] using hw
    exact C17_builtin_class f st n "u" _ _ _ _ (hr.1 _).1 (hr.1 _).2 hn hr.2
  | .obj ms, f + 1, st, _, hr, _ => by
    rw [Ty.toNode, nList, inferRuntime_typeLit hr.2, memberRuntime_mems, Ty.rt]
  | .paren t, f + 1, st, hw, hr, hd | .optional t, f + 1, st, hw, hr, hd => by
    rw [Ty.toNode, inferRuntime_wrapped ?_ hr.2, Ty.rt]
    · exact inferRuntime_eq_rt t f st (by simpa [Ty.wf] using hw) hr (by simp [Ty.depth] at hd; omega)
    · simp
  | .nonNull t, f + 1, st, hw, hr, hd => by
    rw [Ty.toNode, nIdent, inferRuntime_nonNullable (hr.1 _).1 (hr.1 _).2 rfl hr.2,
      inferRuntime_eq_rt t f st (by simpa [Ty.wf] using hw) hr (by simp [Ty.depth] at hd; omega), Ty.rt]
  | .union ts, f + 1, st, hw, hr, hd => by
    rw [Ty.toNode, nList, inferRuntime_union hr.2, Ty.rt]
    exact inferRuntimeL_eq_rt ts f st [] (by simpa [Ty.wf] using hw) hr (by simp [Ty.depth] at hd; omega)
theorem inferRuntimeL_eq_rt : ∀ (ts : List Ty) (fuel : Nat) (st : St) (acc : List RT), Ty.wfL ts = true → NoReg st →
    Ty.depthL ts ≤ fuel →
    (Ty.toNodes ts).foldl (fun (acc : List RT × St) t =>
        let (more, st) := inferRuntime fuel acc.2 t; (rtExtend acc.1 more, st)) (acc, st) = (Ty.rtUnion ts acc, st)
  | [], _, _, _, _, _, _ => by simp [Ty.toNodes, Ty.rtUnion]
  | t :: ts, fuel, st, acc, hw, hr, hd => by
    have hw' : t.wf = true ∧ Ty.wfL ts = true := by simpa [Ty.wfL] using hw
    have hd' : t.depth ≤ fuel ∧ Ty.depthL ts ≤ fuel := by simp [Ty.depthL] at hd; omega
    have h1 := inferRuntime_eq_rt t fuel st hw'.1 hr hd'.1
    have h2 := inferRuntimeL_eq_rt ts fuel st (rtExtend acc t.rt) hw'.2 hr hd'.2
    simp only [Ty.toNodes, List.foldl, h1, Ty.rtUnion]
    exact h2
end

theorem mem_rtUnion {x : RT} : ∀ {ts : List Ty} {acc : List RT}, x ∈ Ty.rtUnion ts acc ↔ x ∈ acc ∨ ∃ t ∈ ts, x ∈ t.rt
  | [], _ => by simp [Ty.rtUnion]
  | t :: ts, acc => by
    rw [Ty.rtUnion, mem_rtUnion, mem_rtExtend, or_assoc]
    simp

theorem vueAccepts_filter {ts : List RT} {v : ValKind} (hv : v ≠ .null) (h : vueAccepts ts v = true) :
    vueAccepts (ts.filter (·.isSome)) v = true := by
  rcases vueAccepts_iff.1 h with h | ⟨t, ht, ha⟩
  · exact vueAccepts_iff.2 (.inl (List.mem_filter.2 ⟨h, rfl⟩))
  · refine vueAccepts_of_mem (List.mem_filter.2 ⟨ht, ?_⟩) ha
    cases t with
    | some c => rfl
    | none =>
      -- the `null` entry accepts the value null alone
      cases v
      case null => exact absurd rfl hv
      all_goals cases ha

theorem rt_sound (v : ValKind) (t : Ty) (h : Inhabits v t) : vueAccepts t.rt v = true := by
  induction h with
  | union v t ts hm _ ih => exact vueAccepts_of_subset (fun x hx => mem_rtUnion.mpr (.inr ⟨t, hm, hx⟩)) ih
  | paren v t _ ih => exact ih
  | optional v t _ ih => exact ih
  | nonNull v t hv _ ih => exact vueAccepts_filter hv ih
  | litPlain ms hall =>
    cases ms with
    | nil => rfl
    | cons c cs =>
      have hc : c = false := by simpa using (List.all_eq_true.mp hall) c (by simp)
      exact vueAccepts_of_mem (mem_objRt (c := c) (by simp)) (by rw [hc]; rfl)
  | litCallable ms hm => exact vueAccepts_of_mem (mem_objRt hm) rfl
  | objInstance c => exact vueAccepts_of_mem (t := some "Object") (by decide) (by simp [acceptsOne])
  | cls n => exact vueAccepts_of_mem (t := some n) (by simp [Ty.rt]) (by simp [acceptsOne])
  | _ => rfl

/-- For every type of the grammar (any nesting depth that the depth limit admits), every value that inhabits it is accepted
    by Vue's check of the `type` the model emits, and nothing is reported. -/
theorem C17_soundness (t : Ty) (v : ValKind) (fuel : Nat) (st : St) (hw : t.wf = true) (hr : NoReg st)
    (hd : t.depth ≤ fuel) (h : Inhabits v t) :
    vueAccepts (inferRuntime fuel st t.toNode).1 v = true ∧ (inferRuntime fuel st t.toNode).2 = st := by
  rw [inferRuntime_eq_rt t fuel st hw hr hd]
  exact ⟨rt_sound v t h, rfl⟩

/-- Vue's check of what is finally written: a lone `null` is `type: null` (no check); otherwise some entry accepts -/
def vueAcceptsEmitted (es : List RT) (v : ValKind) : Bool := es == [none] || es.any (acceptsOne · v)

/-- The last step (`emittedTypes`, which `emitProp` applies to the inferred list) never makes the check stricter. -/
theorem C17_emitted_no_stricter (ts : List RT) (v : ValKind) (h : vueAccepts ts v = true) :
    vueAcceptsEmitted (emittedTypes ts) v = true := by
  unfold emittedTypes
  split
  · simp [vueAcceptsEmitted]
  · next hc =>
    rcases vueAccepts_iff.1 h with h | h
    · exact absurd (by simpa using h) hc
    · simpa [vueAcceptsEmitted] using .inr h

/-- Whatever inhabits the declared type passes Vue's check of the emitted `type`. -/
theorem C17_soundness_emitted (t : Ty) (v : ValKind) (fuel : Nat) (st : St) (hw : t.wf = true) (hr : NoReg st)
    (hd : t.depth ≤ fuel) (h : Inhabits v t) :
    vueAcceptsEmitted (emittedTypes (inferRuntime fuel st t.toNode).1) v = true :=
  C17_emitted_no_stricter _ v (C17_soundness t v fuel st hw hr hd h).1

/-- `null` is kept by unions (`string | null` accepts null) and dropped by `NonNullable` only. -/
theorem C17_null_kept : vueAccepts (Ty.union [.kw "string", .kw "null"]).rt .null = true
    ∧ (Ty.nonNull (.union [.kw "string", .kw "null"])).rt = [some "String"] := by
  decide

/-- `Boolean` before `String` when declared in that order, and the other way round (Vue's boolean casting depends on it). -/
theorem C17_boolean_string_order :
    (Ty.union [.kw "boolean", .kw "string"]).rt = [some "Boolean", some "String"]
    ∧ (Ty.union [.kw "string", .kw "boolean"]).rt = [some "String", some "Boolean"] := by
  decide

theorem ite_isEmpty_ne_nil {α : Type} (a : α) (xs : List α) : (if xs.isEmpty then [a] else xs) ≠ [] := by
  split
  · nofun
  · next h => exact fun e => h (e ▸ rfl)

/-- `{}` and an object type made of properties are Objects, a call signature makes a Function: never the empty list
    (with `type: []` Vue rejects every value). -/
theorem C17_object_like_never_empty (ms : List Bool) : (Ty.obj ms).rt ≠ [] := ite_isEmpty_ne_nil _ _

theorem C17_empty_object_literal : (Ty.obj []).rt = [some "Object"] ∧ (Ty.obj [false, true]).rt = [some "Object", some "Function"] := by
  decide

/-- An interface without parents: Function for call / construct signatures, Object for the rest, Object when it has no members. -/
theorem C17_interface_own_members (fuel : Nat) (st : St) (n b : String) (ir as ias eas bas las : List String) (iks : List Node) (tp id tps : Node)
    (members : List Node)
    (h1 : lookupReg st.typeAliases (n, b) = none)
    (h2 : lookupReg st.interfaces (n, b) = some (.mk .tsIface ias [id, tps, .mk .list eas [], .mk .tsIfaceBody bas [.mk .list las members]]))
    (hg : st.typeGaveUp = false) :
    inferRuntime (fuel + 1) st (.mk .tsTypeRef as [.mk .ident (n :: b :: ir) iks, tp]) = (orObject (memberRuntime members), st) := by
  simp [inferRuntime, h1, h2, enterRes_ok hg]

/-- An interface with one parent and no members of its own (`interface F extends B {}`) has its parent's runtime types — Object if
    the parent contributes none. -/
theorem C17_interface_extends_only (fuel : Nat) (st : St) (n b : String) (ir as ias eas bas las pas pias : List String) (iks piks : List Node) (tp id tps targs : Node)
    (h1 : lookupReg st.typeAliases (n, b) = none)
    (h2 : lookupReg st.interfaces (n, b) = some (.mk .tsIface ias [id, tps, .mk .list eas [.mk .tsExprWithTypeArgs pas [.mk .ident pias piks, targs]], .mk .tsIfaceBody bas [.mk .list las []]]))
    (hg : st.typeGaveUp = false) :
    inferRuntime (fuel + 1) st (.mk .tsTypeRef as [.mk .ident (n :: b :: ir) iks, tp])
      = (orObject (rtExtend [] (inferRuntime fuel st (.mk .tsTypeRef [] [.mk .ident pias [], targs])).1),
         (inferRuntime fuel st (.mk .tsTypeRef [] [.mk .ident pias [], targs])).2) := by
  simp [inferRuntime, h1, h2, enterRes_ok hg, memberRuntime]

/-- The rest element of a tuple (reached by indexing, `[A, ...B[]][1]`) has the runtime types of its element type `B`. -/
theorem C17_tuple_rest_element (fuel : Nat) (st : St) (as aas : List String) (elem : Node) (hg : st.typeGaveUp = false) :
    inferRuntime (fuel + 1) st (.mk (.other "TsRestType") as [.mk .tsArray aas [elem]]) = inferRuntime fuel st elem := by
  simp [inferRuntime, enterRes_ok hg]

/-- An indexed access never yields the empty type list: when the access cannot be
    followed the prop gets no runtime check. -/
theorem C17_indexed_access_never_empty (fuel : Nat) (st : St) (as : List String) (objT idxT : Node) (hg : st.typeGaveUp = false) :
    (inferRuntime (fuel + 1) st (.mk .tsIndexed as [objT, idxT])).1 ≠ [] := by
  simp only [inferRuntime, enterRes_ok hg]
  rcases resolveIndexed fuel st objT idxT with ⟨_ | t, st'⟩
  · nofun
  · dsimp only
    rw [apply_ite Prod.fst]
    exact ite_isEmpty_ne_nil _ _

/-- non-vacuity: the hypotheses of `C17_soundness` are met by a nested type and an initial state -/
example : (Ty.optional (.union [.paren (.kw "string"), .nonNull (.union [.cls "Date", .kw "null"])])).wf = true
    ∧ (Ty.optional (.union [.paren (.kw "string"), .nonNull (.union [.cls "Date", .kw "null"])])).depth ≤ FUEL := by
  decide

end VueJsx
