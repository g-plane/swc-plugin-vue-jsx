/-
  C12 — The optimize option changes hints only, never what is rendered.

  Here: what single functions of the model do with `optimize`.  The theorem about whole modules is in C12b.
-/
import VueJsx.Visitor
import VueJsx.Sem

namespace VueJsx

/-- One step of the attribute fold does not look at `optimize`.  (What `optimize` adds to the output: the hint arguments in
    `trElement`, the `_` entry in `wrapChildren` and in the object arm of `finishChildren`.) -/
theorem C12_attrs_blind (o : Opts) (b : Bool) (isComp : Bool) (a : Node) (lowered : Option Node) (acc : AttrAcc) (st : St) :
    attrStep { o with optimize := b } isComp a lowered acc st = attrStep o isComp a lowered acc st := rfl

/-- The assembly of the props expression does not look at `optimize` either. -/
theorem C12_assemble_blind (o : Opts) (b : Bool) (props mergeArgs : List Node) (st : St) :
    assembleProps { o with optimize := b } props mergeArgs st = assembleProps o props mergeArgs st := rfl

/-- Under optimize the wrapped slots object is the un-optimised one plus exactly one trailing `_` entry. -/
theorem C12_wrap_adds_only_hint (o : Opts) (elems : List Node) (flag : Nat) (slots : Option Node) :
    ∃ props, wrapChildren { o with optimize := false } elems flag slots = nObject props
      ∧ wrapChildren { o with optimize := true } elems flag slots = nObject (props ++ [nKV (nIdentName "_") (nNum flag)]) :=
  ⟨_, rfl, rfl⟩

/-- The entry `optimize` appends passes `isHintEntry`, the test by which `KidsRel` lets an entry be missing and `eraseSlotHint`
    drops one. -/
theorem C12_hint_entry (flag : Nat) : isHintEntry (nKV (nIdentName "_") (nNum flag)) = true := rfl

theorem C12_erase_wrap (o : Opts) (elems : List Node) (flag : Nat) (slots : Option Node) :
    eraseSlotHint (wrapChildren { o with optimize := true } elems flag slots)
      = wrapChildren { o with optimize := false } elems flag slots := by
  obtain ⟨props, h1, h2⟩ := C12_wrap_adds_only_hint o elems flag slots
  rw [h1, h2]
  simp [eraseSlotHint, nObject, nList, dropHintEntries, C12_hint_entry]

/-- With optimize off the slot-flag stack never changes. -/
theorem C12_stack_untouched_when_off (o : Opts) (st : St) (h : o.optimize = false) :
    pushFlag o st = st ∧ (popFlag o st).2 = st := by
  simp [pushFlag, popFlag, h]

/-- Push followed by pop restores the state. -/
theorem C12_push_pop_balanced (o : Opts) (st : St) :
    (popFlag o (pushFlag o st)).2 = st := by
  unfold pushFlag popFlag
  cases o.optimize <;> simp

end VueJsx
