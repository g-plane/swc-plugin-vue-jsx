/-
  C05 — v-model / v-models produce a working two-way binding.
  `C05_select` … `C05_input_dynamic_type`: which Vue model directive a form element gets, by tag, then by its `type` attribute.
-/
import VueJsx.Visitor
import VueJsx.Sem
import VueJsx.Lemmas.AttrsEqs

namespace VueJsx

theorem C05_select (as : List String) (ks attrs : List Node) (st : St) :
    resolveDirective "model" (.mk .ident ("select" :: as) ks) attrs st = st.importFromVue "vModelSelect" := rfl

theorem C05_textarea (as : List String) (ks attrs : List Node) (st : St) :
    resolveDirective "model" (.mk .ident ("textarea" :: as) ks) attrs st = st.importFromVue "vModelText" := rfl

theorem C05_input_checkbox (tag : String) (as : List String) (ks attrs : List Node) (st : St) (sas : List String) (sks : List Node)
    (h1 : tag ≠ "select") (h2 : tag ≠ "textarea") (ht : typeAttrOf attrs = some (.mk .str ("checkbox" :: sas) sks)) :
    resolveDirective "model" (.mk .ident (tag :: as) ks) attrs st = st.importFromVue "vModelCheckbox" := by
  simp [resolveDirective, h1, h2, ht]

theorem C05_input_radio (tag : String) (as : List String) (ks attrs : List Node) (st : St) (sas : List String) (sks : List Node)
    (h1 : tag ≠ "select") (h2 : tag ≠ "textarea") (ht : typeAttrOf attrs = some (.mk .str ("radio" :: sas) sks)) :
    resolveDirective "model" (.mk .ident (tag :: as) ks) attrs st = st.importFromVue "vModelRadio" := by
  simp [resolveDirective, h1, h2, ht]

theorem C05_input_other_static (tag ty : String) (as : List String) (ks attrs : List Node) (st : St) (sas : List String) (sks : List Node)
    (h1 : tag ≠ "select") (h2 : tag ≠ "textarea") (ht : typeAttrOf attrs = some (.mk .str (ty :: sas) sks))
    (h3 : ty ≠ "checkbox") (h4 : ty ≠ "radio") :
    resolveDirective "model" (.mk .ident (tag :: as) ks) attrs st = st.importFromVue "vModelText" := by
  simp [resolveDirective, h1, h2, ht, h3, h4]

theorem C05_input_no_type (tag : String) (as : List String) (ks attrs : List Node) (st : St)
    (h1 : tag ≠ "select") (h2 : tag ≠ "textarea") (ht : typeAttrOf attrs = none) :
    resolveDirective "model" (.mk .ident (tag :: as) ks) attrs st = st.importFromVue "vModelText" := by
  simp [resolveDirective, h1, h2, ht]

theorem C05_input_dynamic_type (tag : String) (as : List String) (ks attrs : List Node) (st : St) (e : Node) (cas : List String)
    (h1 : tag ≠ "select") (h2 : tag ≠ "textarea") (ht : typeAttrOf attrs = some (.mk .jsxExprContainer cas [e])) :
    resolveDirective "model" (.mk .ident (tag :: as) ks) attrs st = st.importFromVue "vModelDynamic" := by
  simp [resolveDirective, h1, h2, ht]

/-- reads a listener of the shape `p => (T) = p` and returns the assignment target `T` -/
def listenerTarget : Node → Option Node
  | .mk .arrow _ [.mk .list _ [.mk .ident (p :: pb :: _) _], .mk .assign ["="] [.mk .paren _ [t], .mk .ident (q :: qb :: _) _], _, _] =>
    if p == q && pb == qb then some t else none
  | _ => none

/-- Invoking the generated listener with a value assigns that value to exactly the bound target expression. -/
theorem C05_listener_assigns_target (t : Node) : listenerTarget (nModelListener t) = some t := rfl

/-- `v-model={x}` on a component: `modelValue: x` and `"onUpdate:modelValue": $event => (x) = $event`. -/
theorem C05_component_default (o : Opts) (v : Node) (acc : AttrAcc) :
    (vmodelStep o true none none none v acc).props =
      acc.props ++ [nKV (nStr "modelValue") v, nKV (nStr "onUpdate:modelValue") (nModelListener v)] := by
  simpa [vmodelKeys, vmodelArgKind] using vmodelStep_props o true none none none v acc

/-- with modifiers: `modelModifiers` sits between them -/
theorem C05_component_modifiers (o : Opts) (v m : Node) (acc : AttrAcc) :
    (vmodelStep o true none none (some m) v acc).props =
      acc.props ++ [nKV (nStr "modelValue") v, nKV (nStr "modelModifiers") m,
                    nKV (nStr "onUpdate:modelValue") (nModelListener v)] := by
  simpa [vmodelKeys, vmodelArgKind] using vmodelStep_props o true none none (some m) v acc

/-- a static argument names the prop, its modifiers prop and its listener -/
theorem C05_component_static_arg (o : Opts) (v m : Node) (arg : String) (as : List String) (ks : List Node) (acc : AttrAcc) :
    (vmodelStep o true (some (.mk .str (arg :: as) ks)) none (some m) v acc).props =
      acc.props ++ [nKV (nStr arg) v, nKV (nStr (arg ++ "Modifiers")) m,
                    nKV (nStr ("onUpdate:" ++ arg)) (nModelListener v)] := by
  simpa [vmodelKeys, vmodelArgKind] using vmodelStep_props o true (some (.mk .str (arg :: as) ks)) none (some m) v acc

/-- on an element: the model binding is recorded with value, argument and modifiers, and the update listener is added to
    the props -/
theorem C05_element_binding (o : Opts) (v : Node) (targ mods : Option Node) (acc : AttrAcc) :
    let r := vmodelStep o false none targ mods v acc
    r.directives = acc.directives ++ [("model", targ, mods, v)]
      ∧ r.props = acc.props ++ [nKV (nStr "onUpdate:modelValue") (nModelListener v)] := by
  exact ⟨dirAcc_directives o false (.vmodel none targ mods v) acc,
    by simpa [vmodelKeys, vmodelArgKind] using vmodelStep_props o false none targ mods v acc⟩

/-- v-models is the same-order sequence of the v-model attributes it lists -/
theorem C05_models_sequence (e : Node) (rest : List Node) :
    decoupleVModels (e :: rest) = decoupleVModels [e] ++ decoupleVModels rest :=
  List.filterMap_append (l := [e]) (l' := rest)

/-- every entry `[x, 'name', ...]` becomes `v-model={[x, 'name', ...]}`: the argument stays a string in the array instead of
    becoming part of an attribute name that is split at `_` -/
theorem C05_models_entry_any (inner : List Node) (as1 as2 as3 : List String) :
    decoupleVModels [.mk .arg as1 [.mk .array as2 [.mk .list as3 inner]]]
      = [.mk .jsxAttr [] [nIdentName "v-model", .mk .jsxExprContainer [] [nArray inner]]] := rfl

/-- `[x]` becomes `v-model={[x]}` -/
theorem C05_models_entry_plain (x : Node) (as1 as2 as3 : List String) :
    decoupleVModels [.mk .arg as1 [.mk .array as2 [.mk .list as3 [nArg x]]]]
      = [.mk .jsxAttr [] [nIdentName "v-model", .mk .jsxExprContainer [] [nArray [nArg x]]]] :=
  C05_models_entry_any [nArg x] as1 as2 as3

/-- a `v-models` entry `[x, 'my_arg']` on a component names the prop `my_arg` (all of it) -/
theorem C05_models_entry_underscore (x : Node) (st : St) (hx : isAssignmentTarget x = true) :
    (parseVModel (.mk .jsxExprContainer [] [nArray [nArg x, nArg (nStr "my_arg")]]) true none [] st).1
      = .vmodel (some (nStr "my_arg")) (some (nStr "my_arg")) none x := by
  -- the parser run on the array `[x, 'my_arg']`: the second element is no array, so it is the argument; no modifiers
  simp [parseVModel, containerExpr, arrayElems, plainElem, nArray, nList, nArg, nStr, transformModifiers, setOfList, hx]

/-- `v-model_trim={[x, 'arg']}` on a component: the argument is the second element and the modifier suffix is kept. -/
theorem C05_array_argument_keeps_suffix_modifiers (x : Node) (st : St) (hx : isAssignmentTarget x = true) :
    (parseVModel (.mk .jsxExprContainer [] [nArray [nArg x, nArg (nStr "arg")]]) true none ["trim"] st).1
      = .vmodel (some (nStr "arg")) (some (nStr "arg")) (transformModifiers ["trim"] true) x := by
  -- likewise on `[x, 'arg']`; there is no third element, so the modifiers are those of the attribute name
  simp [parseVModel, containerExpr, arrayElems, plainElem, nArray, nList, nArg, nStr, setOfList, setInsert, hx]

/-- A `v-model` value that cannot stand on the left of `=` (`x + 1`, `f()`, `x?.y`, `this`, a literal) is reported. -/
theorem C05_unassignable_target_reported (cas : List String) (e : Node) (isComp : Bool) (arg : Option Node) (rest : List String) (st : St)
    (hne : ∀ a k, e ≠ .mk .jsxEmpty a k) (harr : arrayElems e = none) (hx : isAssignmentTarget e = false) :
    (parseVModel (.mk .jsxExprContainer cas [e]) isComp arg rest st).2
      = st.err "Error: The value of `v-model` must be an assignable expression (an identifier or a member expression)." := by
  simp [parseVModel, containerExpr_of_expr hne, harr, hx]

/-- `eval` and `arguments` cannot be assigned to in a module (strict code): they are not v-model targets. -/
theorem C05_eval_arguments_not_targets (as : List String) (ks : List Node) :
    isAssignmentTarget (.mk .ident ("eval" :: as) ks) = false ∧ isAssignmentTarget (.mk .ident ("arguments" :: as) ks) = false := by
  simp [isAssignmentTarget]

/-- the specification's notion of an assignment target (`specAssignable` in Sem.lean, written from ECMA-262) is the model's -/
theorem C05_spec_assignable_is_the_models (n : Node) : specAssignable n = isAssignmentTarget n := by
  -- the two definitions have the same equations: in each case of the one, rewrite with the equation of the other (the side
  -- conditions of the catch-all equation are the case's hypotheses).  `fun_induction` uses the principle generated in
  -- Lemmas/DirectiveEqs (see `isAssignmentTarget_not_call` there)
  fun_induction isAssignmentTarget n <;> (rw [specAssignable] <;> first | rfl | assumption)

end VueJsx
