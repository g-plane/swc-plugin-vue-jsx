/-
  C10 — A JSX expression's lowering does not depend on unrelated code around it.
  Local facts about what the lowering reads of the visitor state: `isComponent` takes no state; `buildIife` reads
  `assignmentLeft` (Rust `assignment_left`) and clears it; `exprHook` writes it at assignments only.
-/
import VueJsx.Lemmas.Visit

namespace VueJsx

/-- That a tag's classification as a component host does not depend on the visitor state is in the type of `isComponent`,
    which takes no state.  The statement adds little: `x = x`, and an iff between two facts that both hold. -/
theorem C10_host_classification_state_free (o : Opts) (env : Env) (n : Node) (st1 st2 : St)
    (as1 as2 as3 : List String) (nameN ta cl : Node) (attrs children : List Node)
    (hn : n = .mk .jsxElement as1 [.mk .jsxOpening as2 [nameN, .mk .list as3 attrs, ta], .mk .list [] children, cl]) :
    isComponent env nameN = isComponent env nameN ∧ ((trElement o env n st1).1.kind = .call ↔ (trElement o env n st2).1.kind = .call) := by
  subst hn
  -- both sides hold: an element is lowered to a call in every state
  have hk st : (trElement o env (.mk .jsxElement as1 [.mk .jsxOpening as2 [nameN, .mk .list as3 attrs, ta], .mk .list [] children, cl]) st).1.kind = .call := by
    rw [trElement_eq]
    exact elementCore_kind ..
  exact ⟨rfl, by simp only [hk]⟩

/-- The identifiers `Fragment` and `_Fragment` are not component hosts, whatever their binding: they are recognised by name. -/
theorem C10_fragment_by_name (env : Env) (bind : String) (rest : List String) (ks : List Node) :
    isComponent env (.mk .ident ("Fragment" :: bind :: rest) ks) = false
    ∧ isComponent env (.mk .ident ("_Fragment" :: bind :: rest) ks) = false := by
  constructor <;> simp [isComponent, tagLocalName, isFragmentName, Text.stripPrefix, FRAGMENT]

/-- When no assignment is remembered, the capture of children (`buildIife`) does nothing: they are used as written. -/
theorem C10_no_capture_without_assignment (elems : List Node) (st : St) (h : st.assignmentLeft = none) :
    buildIife elems st = (elems, st) := by
  simp [buildIife, h]

/-- A remembered assignment is consumed by the first lowering that looks at it: afterwards nothing is remembered. -/
theorem C10_assignment_consumed (elems : List Node) (st : St) : (buildIife elems st).2.assignmentLeft = none :=
  buildIife_inv (·.assignmentLeft = none) (fun _ _ h => h) (fun _ _ h => h) elems st id rfl

/-- On anything but an element, a fragment or an assignment `visit_mut_expr` changes nothing; in particular it leaves
    `assignmentLeft` alone. -/
theorem C10_only_assignments_remembered (o : Opts) (env : Env) (pos : Pos) (n : Node) (st : St)
    (h1 : ∀ a k, n ≠ .mk .jsxElement a k) (h2 : ∀ a k, n ≠ .mk .jsxFragment a k) (h3 : ∀ a k, n ≠ .mk .assign a k) :
    exprHook o env pos n st = (n, st) := by
  obtain ⟨k, as, ks⟩ := n
  exact exprHook_id o env pos as ks st ⟨fun e => h1 as ks (e ▸ rfl), fun e => h2 as ks (e ▸ rfl), fun e => h3 as ks (e ▸ rfl)⟩

end VueJsx
