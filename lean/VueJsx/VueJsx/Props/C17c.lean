/-
  C17, continued — refinement: on every type that involves no indexed access and no bigint literal type (known_findings.txt, key
  runtime-type/bigint-literal), the model's `inferRuntime` yields exactly the constructors the specification (`ctorsOfType` of
  TypeSpec.lean, the oracle's reading) assigns, and reports nothing.
-/
import VueJsx.TypeSpec
import VueJsx.Props.C17

namespace VueJsx

def rtToCtor : RT → Ctor
  | none => .nullValue
  | some n => if n == ANY_TYPE then .anyValue else .named n

theorem rtToCtor_inj {a b : RT} : rtToCtor a = rtToCtor b ↔ a = b := by
  unfold rtToCtor                -- `any` is the one name that is not sent to `named`
  grind

theorem map_rtInsert (x : RT) (xs : List RT) : (rtInsert x xs).map rtToCtor = ctorInsert (rtToCtor x) (xs.map rtToCtor) := by
  have : (xs.map rtToCtor).contains (rtToCtor x) = xs.contains x := by simp [rtToCtor_inj]
  unfold rtInsert ctorInsert
  rw [this]
  split <;> simp

theorem map_rtExtend (xs ys : List RT) : (rtExtend xs ys).map rtToCtor = ctorUnion (xs.map rtToCtor) (ys.map rtToCtor) := by
  rw [rtExtend, ctorUnion, List.foldl_map]
  exact List.foldl_rel (r := fun (a : List RT) c => a.map rtToCtor = c) rfl fun y _ a _ h => h ▸ map_rtInsert y a

theorem memberRuntime_map (ms : List Node) : (memberRuntime ms).map rtToCtor = membersCtors ms := by
  refine List.foldl_rel (r := fun (a : List RT) c => a.map rtToCtor = c) rfl (fun m _ a c h => ?_)
  subst h
  split
  · exact map_rtInsert _ _          -- call signature
  · exact map_rtInsert _ _          -- construct signature
  · next h1 h2 =>                   -- any other member: Object
    split
    · exact absurd rfl (h1 _ _)
    · exact absurd rfl (h2 _ _)
    · exact map_rtInsert _ _

theorem orObject_map (ts : List RT) : (orObject ts).map rtToCtor = objectLike (ts.map rtToCtor) := by
  unfold orObject objectLike
  cases ts <;> simp [rtToCtor, ANY_TYPE]

theorem filter_isSome_map (ts : List RT) :
    (ts.filter (·.isSome)).map rtToCtor = (ts.map rtToCtor).filter (· != Ctor.nullValue) := by
  induction ts with
  | nil => rfl
  | cons t ts ih =>
    cases t with
    | none => simp [rtToCtor, ih]
    | some n => by_cases h : n = ANY_TYPE <;> simp [rtToCtor, h, ih]

/-- within the fuel: no indexed access, no bigint literal type (neither directly nor behind aliases, interfaces' parents or the
    operand of NonNullable / Exclude / OmitThisParameter / Extract).  The bigint literal is out because `inferRuntime`'s last arm
    for a literal type, `Number`, takes it too, where `ctorsOfType` says `BigInt`; indexed access because `ctorsOfType` selects
    through `propsOfType`, the model through `resolveIndexed`: no relation is proved. -/
def plainTy (fuel : Nat) (st : St) (ty : Node) : Bool :=
  match fuel with
  | 0 => false
  | fuel + 1 =>
    match ty with
    | .mk .tsLitType _ [lit] => (match lit with | .mk .bigint _ _ => false | _ => true)
    | .mk .tsParen _ [t] => plainTy fuel st t
    | .mk .tsOptional _ [t] => plainTy fuel st t
    | .mk (.other "TsRestType") _ [.mk .tsArray _ [elem]] => plainTy fuel st elem
    | .mk .tsUnion _ [.mk .list _ ts] => ts.all (plainTy fuel st)
    | .mk .tsIntersection _ [.mk .list _ ts] => ts.all (plainTy fuel st)
    | .mk .tsIndexed _ _ => false
    | .mk .tsTypeRef _ [.mk .ident (n :: b :: _) _, tparams] =>
      match lookupReg st.typeAliases (n, b) with
      | some t => plainTy fuel st t
      | none =>
        match lookupReg st.interfaces (n, b) with
        | some (.mk .tsIface _ [_, _, .mk .list _ ext, .mk .tsIfaceBody _ [.mk .list _ _]]) =>
          ext.all fun p =>
            match p with
            | .mk .tsExprWithTypeArgs _ [.mk .ident ias _, targs] => plainTy fuel st (.mk .tsTypeRef [] [.mk .ident ias [], targs])
            | _ => true
        | some _ => true
        | none =>
          let ps := typeParamsList tparams
          if n == "NonNullable" || n == "Exclude" || n == "OmitThisParameter" then
            (match ps.head? with | some p => plainTy fuel st p | none => true)
          else if n == "Extract" then
            (match ps[1]? with | some p => plainTy fuel st p | none => true)
          else true
    | _ => true

/-- `Reads` (Props/C16c) for runtime types; unconditional, because `ctorsOfType` always has an answer -/
def Gives (st : St) (r : List RT × St) (c : List Ctor) : Prop := r.2 = st ∧ r.1.map rtToCtor = c

/-- `Gives st (inferRuntime fuel st ty) (ctorsOfType fuel st ty)`, written out for the statement of `C17_refines_spec` -/
def Agrees (fuel : Nat) (st : St) (ty : Node) : Prop :=
  (inferRuntime fuel st ty).2 = st ∧ (inferRuntime fuel st ty).1.map rtToCtor = ctorsOfType fuel st ty

theorem Gives.extend {st : St} {acc r : List RT × St} {c d : List Ctor}
    (ha : Gives st acc c) (hr : acc.2 = st → Gives st r d) : Gives st (rtExtend acc.1 r.1, r.2) (ctorUnion c d) :=
  ⟨(hr ha.1).1, by rw [map_rtExtend, ha.2, (hr ha.1).2]⟩

theorem Gives.orObject {st : St} {r : List RT × St} {c : List Ctor} (h : Gives st r c) :
    Gives st (orObject r.1, r.2) (objectLike c) :=
  ⟨h.1, by rw [orObject_map, h.2]⟩

theorem Gives.ite {st : St} {p : Prop} [Decidable p] {a b : List RT × St} {c d : List Ctor}
    (h1 : p → Gives st a c) (h2 : ¬p → Gives st b d) : Gives st (if p then a else b) (if p then c else d) := by
  split
  · exact h1 ‹_›
  · exact h2 ‹_›

theorem kwRt_map {k : String} {fuel : Nat} {st : St} {ks : List Node} :
    (kwRt k).map rtToCtor = ctorsOfType (fuel + 1) st (.mk .tsKeyword [k] ks) := by
  simp only [ctorsOfType, kwRt, apply_ite (List.map rtToCtor)]
  -- the two tables agree row by row; the model's row for `null` is the specification's last
  by_cases h : k = "null"
  · subst h; rfl
  · simp [h, rtToCtor, ANY_TYPE]

theorem C17_refines_spec : ∀ (fuel : Nat) (st : St) (ty : Node), st.typeGaveUp = false → plainTy fuel st ty = true →
    Agrees fuel st ty
  | 0, _, _, _, hp => nomatch hp
  | fuel + 1, st, ty, hg, hp => by
    have ih : ∀ t, plainTy fuel st t = true → Gives st (inferRuntime fuel st t) (ctorsOfType fuel st t) :=
      fun t hpt => C17_refines_spec fuel st t hg hpt
    have ih' : ∀ {t : Node} {s : St}, plainTy fuel st t = true → s = st →
        Gives st (inferRuntime fuel s t) (ctorsOfType fuel st t) := fun hpt h => h ▸ ih _ hpt
    show Gives st _ _
    -- along the model's cases: with the node's shape known, the specification's answer is computation
    rw [inferRuntime, enterRes_ok hg]
    dsimp only
    split
    · exact ⟨rfl, kwRt_map⟩          -- keyword
    · -- type literal
      exact Gives.orObject (r := (_, st)) ⟨rfl, memberRuntime_map _⟩
    · exact ⟨rfl, rfl⟩               -- function
    · exact ⟨rfl, rfl⟩               -- constructor
    · exact ⟨rfl, rfl⟩               -- array
    · exact ⟨rfl, rfl⟩               -- tuple
    · -- literal type: the model's kinds, then the specification's under its last
      simp only [ctorsOfType]
      split
      · exact ⟨rfl, rfl⟩             -- string
      · exact ⟨rfl, rfl⟩             -- template
      · exact ⟨rfl, rfl⟩             -- boolean
      · next h1 h2 h3 =>
        split
        · exact absurd rfl (h1 _ _)
        · exact absurd rfl (h2 _ _)
        · exact absurd rfl (h3 _ _)
        · simp [plainTy] at hp       -- bigint: not plain
        · exact ⟨rfl, rfl⟩           -- number
    · -- type reference
      next n b _ _ tparams =>
      rw [ctorsOfType]
      rw [plainTy] at hp
      cases hl : lookupReg st.typeAliases (n, b) with
      | some t => simp only [hl] at hp ⊢; exact ih t hp
      | none =>
        simp only [hl] at hp ⊢
        split
        · -- interface: own members, then the `extends` fold
          next ext _ _ members hi =>
          simp only [hi] at hp ⊢
          refine Gives.orObject (List.foldl_rel (r := Gives st) ⟨rfl, memberRuntime_map _⟩ (fun p hmem acc c ha => ?_))
          have hpp := List.all_eq_true.mp hp p hmem
          split
          · exact ha.extend (ih' hpp)
          · next hne =>
            split
            · exact absurd rfl (hne _ _ _ _)
            · exact ⟨ha.1, by rw [map_rtInsert, ha.2]; rfl⟩
        · -- another node under the name: nothing on either side
          next hne hi =>
          simp only [hi]
          exact ⟨rfl, rfl⟩
        · -- no declaration: the global names
          next hi =>
          simp only [hi, builtinClasses] at hp ⊢
          -- `plainTy` tests `(NonNullable || Exclude) || OmitThisParameter`: reassociated, the model's test `Exclude ||
          -- OmitThisParameter` is a subterm of `hp`
          rw [Bool.or_assoc] at hp
          -- the tests on `n`, one per line; the second to fourth: tables with a fixed answer
          refine
            .ite (fun h => ⟨rfl, ?builtin⟩) fun _ =>
            .ite (fun _ => ⟨rfl, rfl⟩) fun _ =>
            .ite (fun _ => ⟨rfl, rfl⟩) fun _ =>
            .ite (fun _ => ⟨rfl, rfl⟩) fun _ =>
            .ite (fun hn => ?nonNullable) fun hn =>
            .ite (fun he => ?exclude) fun he =>
            .ite (fun hx => ?extract) fun _ => ⟨rfl, rfl⟩     -- otherwise Object
          case builtin =>
            -- a built-in class is not called `any`
            have : n ≠ ANY_TYPE := by rintro rfl; simp [ANY_TYPE] at h
            simp [rtToCtor, this]
          case nonNullable =>
            simp only [hn, Bool.true_or, if_true] at hp
            cases hh : (typeParamsList tparams).head? with
            | none => exact ⟨rfl, rfl⟩
            | some p =>
              simp only [hh] at hp
              exact ⟨(ih p hp).1, by rw [filter_isSome_map, (ih p hp).2]⟩
          case exclude =>
            simp only [he, Bool.or_true, if_true] at hp
            cases hh : (typeParamsList tparams).head? with
            | none => exact ⟨rfl, rfl⟩
            | some p => simp only [hh] at hp; exact ih p hp
          case extract =>
            simp only [hn, he, Bool.or_false, Bool.false_eq_true, if_false, hx, if_true] at hp
            cases hh : (typeParamsList tparams)[1]? with
            | none => exact ⟨rfl, rfl⟩
            | some p => simp only [hh] at hp; exact ih p hp
    · exact ih _ hp                  -- parentheses
    · exact ih _ hp                  -- optional
    · -- union
      exact List.foldl_rel (r := Gives st) ⟨rfl, rfl⟩
        (fun t ht _ _ ha => ha.extend (ih' (List.all_eq_true.mp hp t ht)))
    · -- intersection
      exact List.foldl_rel (r := Gives st) ⟨rfl, rfl⟩
        (fun t ht _ _ ha => ha.extend (ih' (List.all_eq_true.mp hp t ht)))
    · cases hp                       -- indexed access: not plain
    · exact ih _ hp                  -- rest of an array
    · -- rest of anything else: no check on either side; `rw`'s side goals (no earlier pattern applies) are what `split` left
      rw [ctorsOfType]
      · exact ⟨rfl, rfl⟩
      · assumption
    · -- any other node: an Object on either side, by the specification's last equation
      rw [ctorsOfType]
      · exact ⟨rfl, rfl⟩
      all_goals assumption

/-- For every type that involves no indexed access and no bigint literal type, through any registry and to any nesting the
    depth limit admits, the runtime types the model infers are exactly the constructors the specification assigns (same
    entries, same order), and nothing is reported. -/
theorem C17_model_implements_spec (st : St) (ty : Node) (hg : st.typeGaveUp = false) (hp : plainTy FUEL st ty = true) :
    (inferRuntime FUEL st ty).2 = st ∧ (inferRuntime FUEL st ty).1.map rtToCtor = ctorsOfType FUEL st ty :=
  C17_refines_spec FUEL st ty hg hp

def exC17B : Node := .mk .tsIface [] [nIdent "B" "t", nNone, nList [], .mk .tsIfaceBody [] [nList [.mk .tsCallSig [] [nList [], nNone, nNone]]]]
def exC17A : Node := .mk .tsIface [] [nIdent "A" "t", nNone,
  nList [.mk .tsExprWithTypeArgs [] [.mk .ident ["B", "t"] [], nNone]],
  .mk .tsIfaceBody [] [nList [.mk .tsPropSig ["false", "false", "false"] [.mk .ident ["a", "n"] [], nNone]]]]
def exC17St : St := { interfaces := [(("A", "t"), exC17A), (("B", "t"), exC17B)] }
def exC17Ty : Node := .mk .tsUnion [] [nList [
  .mk .tsTypeRef [] [.mk .ident ["NonNullable", "u"] [], .mk .tsTypeParamInst [] [nList [.mk .tsUnion [] [nList [.mk .tsTypeRef [] [.mk .ident ["A", "t"] [], nNone], .mk .tsKeyword ["null"] []]]]]],
  .mk .tsKeyword ["boolean"] [], .mk .tsKeyword ["string"] []]]
/-- non-vacuity: `interface B { (): void }  interface A extends B { a: 1 }`, `p: NonNullable<A | null> | boolean | string` -/
example : plainTy FUEL exC17St exC17Ty = true ∧ exC17St.typeGaveUp = false
    ∧ ctorsOfType FUEL exC17St exC17Ty = [.named "Object", .named "Function", .named "Boolean", .named "String"] := by
  exact ⟨rfl, rfl, rfl⟩

end VueJsx
