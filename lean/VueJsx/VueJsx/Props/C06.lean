/-
  C06 — Every name the transform introduces is bound, in scope, and initialised.
  That the emitted declarations enclose all uses for every module is judged on the real output by the scope-analysis
  oracle (`scopeWalk` in Oracle.lean); the theorems below are its local ingredients.
-/
import VueJsx.Lemmas.VisitorEqs
import VueJsx.Canon
import Std.Data.String.ToNat  -- `Nat.repr_injective`

namespace VueJsx

theorem drainInto_clears (items : List Node) (st : St) :
    (drainInto items st).2.injectingVars = [] ∧ (drainInto items st).2.injectingConsts = [] := by
  rw [drainInto_pending]; exact ⟨rfl, rfl⟩

theorem drainInto_shape (items : List Node) (st : St) (v c : Node) (vs cs : List Node)
    (hv : st.injectingVars = v :: vs) (hc : st.injectingConsts = c :: cs) :
    (drainInto items st).1 = nVarDecl "let" (v :: vs) :: nVarDecl "const" (c :: cs) :: items := by
  simp [drainInto_pending, St.pendingDecls, St.pendingVars, St.pendingConsts, hv, hc]

/-- A statement list never steals and never leaks temporaries: what was pending before it is exactly what is pending
    after it. -/
theorem C06_stmts_scoped (o : Opts) (env : Env) (as : List String) (ks : List Node) (pos : Pos) (st : St) :
    (visit o env (.mk .stmts as ks) pos st).2.injectingVars = st.injectingVars
    ∧ (visit o env (.mk .stmts as ks) pos st).2.injectingConsts = st.injectingConsts := by
  rw [visit_stmts_eq]; exact ⟨rfl, rfl⟩

/-- The items a statement list ends up with are the declarations of what was created inside, followed by its own
    (visited) statements. -/
theorem C06_stmts_result (o : Opts) (env : Env) (as : List String) (ks : List Node) (pos : Pos) (st : St) :
    (visit o env (.mk .stmts as ks) pos st).1
      = .mk .stmts as (drainInto (visitKids o env .stmts pos 0 ks st.clearPending).1 (visitKids o env .stmts pos 0 ks st.clearPending).2).1 := by
  rw [visit_stmts_eq]

/-- `drainArrow` either declares all that is pending (afterwards nothing is) or leaves the state as it is.  The temporaries
    of the parameters never reach it: `visit` sets them aside before the body and puts them back after (`visit_arrow_cons_eq`). -/
theorem C06_arrow_params_outward (n : Node) (st : St) :
    (drainArrow n st).2.injectingVars = [] ∧ (drainArrow n st).2.injectingConsts = []
    ∨ (drainArrow n st).2 = st := by
  rcases drainArrow_cases n st with h | ⟨_, _, _, _, _, -, h⟩ <;> rw [h]
  · exact .inr rfl
  · exact .inl ⟨rfl, rfl⟩

/-- The n-th generated identifier carries the binding class `g<n>`, the counter goes up by one, and two identifiers
    generated in a row differ in their class. -/
theorem C06_fresh_distinct (st : St) (a b : String) :
    identBind (st.fresh a).1 = "g" ++ toString st.gen
    ∧ (st.fresh a).2.gen = st.gen + 1
    ∧ identBind ((st.fresh a).2.fresh b).1 ≠ identBind (st.fresh a).1 := by
  refine ⟨rfl, rfl, ?_⟩
  simp only [St.fresh, nIdent, identBind]
  intro h
  have h1 : (toString (st.gen + 1)).toList = (toString st.gen).toList := by
    have := congrArg String.toList h
    simpa [String.toList_append] using this
  have h2 : toString (st.gen + 1) = toString st.gen := String.ext h1
  have h3 : Nat.repr (st.gen + 1) = Nat.repr st.gen := h2
  have := Nat.repr_injective h3
  omega

theorem isGenBind_fresh (st : St) (a : String) : isGenBind (identBind (st.fresh a).1) = true := by
  simp [St.fresh, nIdent, identBind, isGenBind, String.toList_append]

/-- At the end of a module nothing is left pending. -/
theorem C06_module_declares_everything (items : List Node) (st : St) :
    (finishModule items st).2.injectingVars = [] ∧ (finishModule items st).2.injectingConsts = [] := by
  rw [finishModule_eq]
  have h := finishHelper_pending (drainInto items st).1 (drainInto items st).2
  have hc := drainInto_clears items st
  exact ⟨h.1.trans hc.1, h.2.trans hc.2⟩

/-- When the slot-test helper is set at the end of the module, the module's items contain a function declaration (in the
    proof: the helper's). -/
theorem C06_helper_declared_when_used (items : List Node) (st : St) (h : Node) (hh : (drainInto items st).2.slotHelper = some h) :
    ∃ decl ∈ (finishModule items st).1, decl.kind = .fnDecl := by
  rw [finishModule_eq]
  have hd : ∃ d r, (finishHelper (drainInto items st).1 (drainInto items st).2).1 = d :: r ∧ d.kind = .fnDecl := by
    unfold finishHelper; rw [hh]; exact ⟨_, _, rfl, rfl⟩
  obtain ⟨d, r, hd, hk⟩ := hd
  exact ⟨d, mem_finishImports _ (hd ▸ List.mem_cons_self), hk⟩

end VueJsx
