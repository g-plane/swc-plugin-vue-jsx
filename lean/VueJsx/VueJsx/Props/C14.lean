/-
  C14 — Options have their documented defaults and only their documented effect.
  Two groups: reading a configuration into an `OptionsV`, and non-interference of single options in the lowering and the
  traversal, which take `Opts` and `Env`.  Both model `options.rs: Options`; nothing in the model turns an `OptionsV` into
  `Opts` and `Env`, so no theorem connects the groups.
-/
import VueJsx.Props.C09
import VueJsx.Options

namespace VueJsx

/-- `{}` equals no configuration equals the documented defaults. -/
theorem C14_defaults (valid : String → Bool) :
    parseOptions valid (.obj []) = some OptionsV.default
    ∧ pluginOptions valid none = some OptionsV.default
    ∧ OptionsV.default = { transformOn := false, optimize := false, customElementPatterns := [], mergeProps := true,
                           enableObjectSlots := true, pragma := none, resolveType := false } := by
  refine ⟨rfl, rfl, rfl⟩

/-- Setting a field never changes another field. -/
theorem C14_setField_frame {valid : String → Bool} {o o' : OptionsV} {k : String} {v : Json} (h : setField valid o k v = some o') :
    (k ≠ "transformOn" → o'.transformOn = o.transformOn) ∧ (k ≠ "optimize" → o'.optimize = o.optimize)
    ∧ (k ≠ "customElementPatterns" → o'.customElementPatterns = o.customElementPatterns)
    ∧ (k ≠ "mergeProps" → o'.mergeProps = o.mergeProps) ∧ (k ≠ "enableObjectSlots" → o'.enableObjectSlots = o.enableObjectSlots)
    ∧ (k ≠ "pragma" → o'.pragma = o.pragma) ∧ (k ≠ "resolveType" → o'.resolveType = o.resolveType) := by
  unfold setField at h
  simp only [beq_iff_eq] at h
  -- the seven links of the chain, key by key (`split at h` would abstract each condition out of the whole chain)
  iterate 7
    rcases ite_map_eq_some h with ⟨hk, b, rfl⟩ | ⟨_, h⟩
    · simp [hk]
  cases h; simp

/-- An unknown key is ignored, whatever its value. -/
theorem C14_unknown_key_ignored (valid : String → Bool) (o : OptionsV) (k : String) (v : Json)
    (h : knownKeys.contains k = false) : setField valid o k v = some o := by
  simp [knownKeys] at h
  simp [setField, h]

theorem parseEntries_keeps {α : Type} (f : OptionsV → α) (kf : String) {valid : String → Bool}
    (hf : ∀ {o k v o'}, setField valid o k v = some o' → k ≠ kf → f o' = f o)
    {kvs : List (String × Json)} {o o' : OptionsV} {seen : List String}
    (h : parseEntries valid kvs o seen = some o') (hk : ∀ kv ∈ kvs, kv.1 ≠ kf) : f o' = f o := by
  fun_induction parseEntries valid kvs o seen
  case case3 hs ih =>
    rw [ih h fun kv hkv => hk kv (List.mem_cons_of_mem _ hkv), hf hs (hk _ List.mem_cons_self)]
  -- a repeated key, a rejected entry: `none`; the empty list: `o` itself
  all_goals cases h
  rfl

/-- A configuration object that never mentions key `k` leaves the field of `k` as it was. -/
theorem C14_absent_keeps (valid : String → Bool) (kvs : List (String × Json)) (o o' : OptionsV) (seen : List String)
    (h : parseEntries valid kvs o seen = some o') :
    ((∀ kv ∈ kvs, kv.1 ≠ "transformOn") → o'.transformOn = o.transformOn)
    ∧ ((∀ kv ∈ kvs, kv.1 ≠ "optimize") → o'.optimize = o.optimize)
    ∧ ((∀ kv ∈ kvs, kv.1 ≠ "customElementPatterns") → o'.customElementPatterns = o.customElementPatterns)
    ∧ ((∀ kv ∈ kvs, kv.1 ≠ "mergeProps") → o'.mergeProps = o.mergeProps)
    ∧ ((∀ kv ∈ kvs, kv.1 ≠ "enableObjectSlots") → o'.enableObjectSlots = o.enableObjectSlots)
    ∧ ((∀ kv ∈ kvs, kv.1 ≠ "pragma") → o'.pragma = o.pragma)
    ∧ ((∀ kv ∈ kvs, kv.1 ≠ "resolveType") → o'.resolveType = o.resolveType) :=
  ⟨parseEntries_keeps (·.transformOn) _ (fun hs => (C14_setField_frame hs).1) h,
   parseEntries_keeps (·.optimize) _ (fun hs => (C14_setField_frame hs).2.1) h,
   parseEntries_keeps (·.customElementPatterns) _ (fun hs => (C14_setField_frame hs).2.2.1) h,
   parseEntries_keeps (·.mergeProps) _ (fun hs => (C14_setField_frame hs).2.2.2.1) h,
   parseEntries_keeps (·.enableObjectSlots) _ (fun hs => (C14_setField_frame hs).2.2.2.2.1) h,
   parseEntries_keeps (·.pragma) _ (fun hs => (C14_setField_frame hs).2.2.2.2.2.1) h,
   parseEntries_keeps (·.resolveType) _ (fun hs => (C14_setField_frame hs).2.2.2.2.2.2) h⟩

/-- An invalid pattern is rejected when the configuration is read. -/
theorem C14_invalid_pattern_rejected (valid : String → Bool) (before after : List Json) (p : String) (o : OptionsV)
    (hp : valid p = false) :
    setField valid o "customElementPatterns" (.arr (before ++ .str p :: after)) = none := by
  have : asPatterns valid (.arr (before ++ .str p :: after)) = none := by
    unfold asPatterns
    induction before with
    | nil =>
      simp only [List.nil_append, List.foldr_cons]
      split
      · next e _ => cases e; simp [hp]
      · rfl
    | cons b bs ih =>
      simp only [List.cons_append, List.foldr_cons, ih]
  simp [setField, this]

/-- `transformOn` only matters for an `on`/`nativeOn` attribute: every other attribute is handled identically. -/
theorem C14_transformOn_only_on (o : Opts) (b : Bool) (isComp : Bool) (nameN valueN : Node) (as : List String)
    (lw : Option Node) (acc : AttrAcc) (st : St) (s : String)
    (hname : attrNameOf nameN = .plain s) (h1 : s ≠ "on") (h2 : s ≠ "nativeOn") :
    attrStep { o with transformOn := b } isComp (.mk .jsxAttr as [nameN, valueN]) lw acc st
      = attrStep o isComp (.mk .jsxAttr as [nameN, valueN]) lw acc st := by
  have hb (t : Bool) : (t && (s == "on" || s == "nativeOn")) = false := by simp [h1, h2]
  cases hd : isDirectiveAttrName (attrNameOf nameN)
  · simp only [attrStep_plain hd, plainCore, attrNameText, hname, hb]
  · -- the directive arm never reads `o` (`vmodelStep`: `let _ := o`)
    rw [attrStep_directive hd, attrStep_directive hd]
    rfl

/-- `transformOn` never matters for a spread. -/
theorem C14_transformOn_spread (o : Opts) (b : Bool) (isComp : Bool) (e : Node) (as : List String) (acc : AttrAcc) (st : St) :
    attrStep { o with transformOn := b } isComp (.mk .spreadElement as [e]) none acc st
      = attrStep o isComp (.mk .spreadElement as [e]) none acc st := rfl

/-- `enableObjectSlots` only matters when the sole child is an identifier or a call. -/
theorem C14_objectSlots_only_sole_ident_or_call (o : Opts) (b : Bool) (elems : List Node) (isComp : Bool)
    (slots : Option Node) (flag : Nat) (st : St)
    (h : ∀ aas e, elems = [.mk .arg aas [e]] → (∀ a k, e ≠ .mk .ident a k) ∧ (∀ a k, e ≠ .mk .call a k)) :
    finishChildren { o with enableObjectSlots := b } elems isComp slots flag st = finishChildren o elems isComp slots flag st := by
  rw [finishChildren_eq, finishChildren_eq]
  fun_cases kidsView elems
  case case2 aas a k => exact absurd rfl ((h aas (.mk .ident a k) rfl).1 a k) -- sole identifier
  case case3 aas syn a k _ => exact absurd rfl ((h aas (.mk .call (syn :: a) k) rfl).2 _ k) -- sole user call
  all_goals rfl

-- adding patterns to `customElementPatterns` is modelled as appending the tag names they match (`extra`) to `Env.patMatch`
theorem isPat_append (env : Env) {extra : List String} {name : String} (h : extra.contains name = false) :
    ({ env with patMatch := env.patMatch ++ extra } : Env).isPat name = env.isPat name := by
  simp only [Env.isPat, List.contains_eq_mem, List.mem_append] at *
  simp_all

/-- `customElementPatterns` only matter for tags a pattern matches. -/
theorem C14_patterns_only_matched_tags (env : Env) (extra : List String) (name bind : String) (rest : List String)
    (ks : List Node) (st : St) (h : extra.contains name = false) :
    transformTag { env with patMatch := env.patMatch ++ extra } (.mk .ident (name :: bind :: rest) ks) st
      = transformTag env (.mk .ident (name :: bind :: rest) ks) st := by
  simp only [transformTag, isPat_append env h]
  rfl

/-- The tag of a namespaced element is its qualified name: whether `<ns:name>` takes slots is untouched by patterns that
    do not match `ns:name`, and the tag itself never depends on them. -/
theorem C14_patterns_only_matched_namespaced_tags (env : Env) (extra : List String) (as : List String) (nsN nmN : Node) (st : St)
    (h : extra.contains (identName nsN ++ ":" ++ identName nmN) = false) :
    isComponent { env with patMatch := env.patMatch ++ extra } (.mk .jsxNsName as [nsN, nmN])
        = isComponent env (.mk .jsxNsName as [nsN, nmN])
    ∧ transformTag { env with patMatch := env.patMatch ++ extra } (.mk .jsxNsName as [nsN, nmN]) st
        = transformTag env (.mk .jsxNsName as [nsN, nmN]) st := by
  constructor
  · simp only [isComponent, isPat_append env h]
    rfl
  · rfl

/-- A module without JSX that does not import Vue's `defineComponent` is transformed identically (left unchanged) under
    any two option sets. -/
theorem C14_no_option_matters_without_jsx (o1 o2 : Opts) (env : Env) (as las : List String)
    (items rest : List Node) (hj : JsxFreeL items = true) (hjr : JsxFreeL rest = true)
    (hi : NoDcImportL items = true) (hir : NoDcImportL rest = true) :
    (transformModule o1 env (.mk .module as (.mk .list las items :: rest))).1
      = (transformModule o2 env (.mk .module as (.mk .list las items :: rest))).1 := by
  rw [C09_module_identity_all_options o1 env as las items rest hj hjr hi hir,
      C09_module_identity_all_options o2 env as las items rest hj hjr hi hir]

/-- `resolveType` only matters for calls of Vue's own `defineComponent`: with no binding recorded, the two hooks it
    switches on leave every call and every declarator alone, whatever the option says. -/
theorem C14_resolveType_only_defineComponent (o1 o2 : Opts) (env : Env) (k : K) (as : List String) (ks : List Node) (st : St)
    (hk : isJsxKind k = false) (hi : importsDc (.mk k as ks) = false) (hd : st.defineComponent = none) :
    kindHook o1 env (.mk k as ks) st = kindHook o2 env (.mk k as ks) st := by
  rw [kindHook_identity_rt o1 env k as ks st hk hi hd, kindHook_identity_rt o2 env k as ks st hk hi hd]

end VueJsx
