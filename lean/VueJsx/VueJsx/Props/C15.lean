/-
  C15 — The vnode factory is createVNode unless a pragma names another.
  Which identifier `getPragma` yields; what the scanner extracts from one line of a comment (`pragmaOfComment`), for all
  texts (the lines of a comment are put together in C15b); the callee of every lowered element and fragment.
-/
import VueJsx.Lemmas.Visit

namespace VueJsx
open Text

/-- Without any pragma the factory is Vue's createVNode, imported from 'vue'. -/
theorem C15_default_createVNode (o : Opts) (st : St) (h1 : st.pragma = none) (h2 : o.pragma = none) :
    getPragma o st = st.importFromVue "createVNode" := by
  simp [getPragma, effPragma, h1, h2]

/-- A comment annotation takes precedence over the option, and nothing is imported for it. -/
theorem C15_comment_over_option (o : Opts) (st : St) (p : String) (h : st.pragma = some p) (hv : isValidPragma p = true) :
    getPragma o st = (nQuoteIdent p, st) := by
  simp [getPragma, effPragma, h, hv]

/-- The `pragma` option names the factory when no comment does; createVNode is not imported for it. -/
theorem C15_option_pragma (o : Opts) (st : St) (q : String) (h1 : st.pragma = none) (h2 : o.pragma = some q)
    (hv : isValidPragma q = true) :
    getPragma o st = (nQuoteIdent q, st) := by
  simp [getPragma, effPragma, h1, h2, hv]

/-- A pragma that is not an identifier (or identifiers joined by dots) is reported, and Vue's createVNode is used instead. -/
theorem C15_invalid_pragma_reported (o : Opts) (st : St) (p : String) (h : effPragma o st = some p) (hv : isValidPragma p = false) :
    getPragma o st = (st.err ("Error: `" ++ p ++ "` can't be used as JSX pragma: it is not an identifier.")).importFromVue "createVNode" := by
  simp [getPragma, h, hv]

/-- With a valid pragma `p` found in a comment, every fragment is created by calling exactly `p`. -/
theorem C15_fragment_callee (o : Opts) (env : Env) (as1 as2 : List String) (op cl : Node) (children : List Node) (st : St) (p : String)
    (h : st.pragma = some p) (hv : isValidPragma p = true) :
    ∃ args st', trFragment o env (.mk .jsxFragment as1 [op, .mk .list as2 children, cl]) st = (nCall (nQuoteIdent p) args, st') := by
  have hp := (ro_pragma (pushFlag_ro o st)).trans h
  rw [trFragment_eq]
  simp only [fragmentParts, fragmentCore, C15_comment_over_option o _ p hp hv]
  exact ⟨_, _, rfl⟩

/-- A later annotated position overrides an earlier one (module head first, then the statements in order). -/
theorem C15_later_comment_wins (env : Env) (before : List (List String)) (last : List String) (p : String) (st : St)
    (hc : env.hasComments = true) (hcs : env.comments = before ++ [last]) (hl : pragmaOfComments last = some p) :
    (scanPragmas env st).pragma = some p := by
  simp [scanPragmas, hc, hcs, List.foldl_append, hl]

/-- Positions without an annotation leave the pragma found so far untouched. -/
theorem C15_unannotated_position_keeps (env : Env) (before : List (List String)) (last : List String) (st : St)
    (hc : env.hasComments = true) (hcs : env.comments = before ++ [last]) (hl : pragmaOfComments last = none) :
    (scanPragmas env st).pragma = (scanPragmas { env with comments := before } st).pragma := by
  simp [scanPragmas, hc, hcs, List.foldl_append, hl]

theorem stripPrefix_append (p s : List Char) : stripPrefix p (p ++ s) = some s := by
  induction p with
  | nil => simp [stripPrefix]
  | cons c cs ih => simp [stripPrefix, ih]

/-- A line whose (trimmed, optionally starred) text does not start with `@jsx` is no annotation. -/
theorem C15_scan_no_tag (c : List Char) (h : afterJsxTag c = none) : pragmaOfComment c = none := by
  simp [pragmaOfComment, h]

/-- `@jsxImportSource`, `@jsxRuntime`, `@jsxFrag`, …: a line with `@jsx` directly followed by a non-blank character is no annotation. -/
theorem C15_scan_other_jsx_tags (c : List Char) (ch : Char) (r : List Char)
    (h : afterJsxTag c = some (ch :: r)) (hch : isUnicodeWs ch = false) : pragmaOfComment c = none := by
  simp [pragmaOfComment, h, pragmaOfRest, hch]

/-- A line with a bare `@jsx` (nothing after it) is no annotation. -/
theorem C15_scan_bare (c : List Char) (h : afterJsxTag c = some []) : pragmaOfComment c = none := by
  simp [pragmaOfComment, h, pragmaOfRest]

/-- `@jsx`, a blank, then a name: the pragma is the maximal run of non-blank characters — trailing words are ignored. -/
theorem C15_scan_name (c : List Char) (ch : Char) (r : List Char) (n : Char) (ns : List Char)
    (h : afterJsxTag c = some (ch :: r)) (hch : isUnicodeWs ch = true) (hn : firstToken (trimStartWs r) = n :: ns) :
    pragmaOfComment c = some (n :: ns) := by
  simp [pragmaOfComment, h, pragmaOfRest, hch, hn]

theorem firstToken_no_ws (s : List Char) : ∀ c ∈ firstToken s, isUnicodeWs c = false := by
  induction s with
  | nil => simp [firstToken]
  | cons x xs ih =>
    simp only [firstToken]
    split
    · simp
    · intro c hc
      simp at hc
      rcases hc with rfl | hc
      · simp_all
      · exact ih c hc

/-- Whatever the line, an extracted pragma is one non-empty word. -/
theorem C15_scan_result_is_one_word (c : List Char) (name : List Char) (h : pragmaOfComment c = some name) :
    name ≠ [] ∧ ∀ x ∈ name, isUnicodeWs x = false := by
  obtain ⟨s, _, hr⟩ := Option.bind_eq_some_iff.1 h
  cases s with
  | nil => simp [pragmaOfRest] at hr
  | cons ch r =>
    simp only [pragmaOfRest] at hr
    split at hr
    · split at hr
      · simp at hr
      · rename_i hne; cases hr; exact ⟨hne, firstToken_no_ws _⟩
    · simp at hr

#guard pragmaOfComment " @jsx h ".toList == some "h".toList
#guard pragmaOfComment "* @jsx custom.h extra words".toList == some "custom.h".toList
#guard pragmaOfComment "* @jsxImportSource vue ".toList == none
#guard pragmaOfComment " @jsxFrag F".toList == none
#guard pragmaOfComment " @jsx ".toList == none
#guard pragmaOfComment " x @jsx h".toList == none

/-- Likewise every element is created by calling exactly `p`: the vnode call (the whole lowering, or the first
    argument of the `withDirectives` wrapper) has the callee `p`, whatever attributes, directives and children the
    element has. -/
theorem C15_element_callee (o : Opts) (env : Env) (a0 a1 a2 a3 : List String) (nameN x y : Node) (attrs children : List Node)
    (st : St) (p : String) (h : st.pragma = some p) (hv : isValidPragma p = true) :
    let r := trElement o env (.mk .jsxElement a0 [.mk .jsxOpening a1 [nameN, .mk .list a2 attrs, x], .mk .list a3 children, y]) st
    (∃ args, r.1 = nCall (nQuoteIdent p) args) ∨ (∃ wd args rest, r.1 = nCall wd (nArg (nCall (nQuoteIdent p) args) :: rest)) := by
  intro r
  have hr : r = elementCore o env nameN attrs children st := trElement_eq ..
  rw [hr]
  unfold elementCore
  extract_lets isComp ar tag elems flag kids pragma vnode
  -- where the pragma is read, the state still has the fields of `st` the lowering only reads
  have hro : kids.2.ro = st.ro := by
    simp only [kids, flag, elems, tag, ar, finishChildren_ro, popFlag_ro, trChildList_ro, transformTag_ro, transformAttrs_ro, pushFlag_ro]
  have hp : pragma.1 = nQuoteIdent p := congrArg Prod.fst (C15_comment_over_option o kids.2 p ((ro_pragma hro).trans h) hv)
  split
  · exact .inl ⟨_, congrArg (nCall · _) hp⟩
  · exact .inr ⟨_, _, _, congrArg (fun c => nCall _ (nArg (nCall c _) :: _)) hp⟩

theorem kindHook_pragma (o : Opts) (env : Env) (hrt : o.resolveType = false) (n : Node) (st : St) :
    (kindHook o env n st).2.pragma = st.pragma := by
  obtain ⟨k, as, ks⟩ := n
  by_cases ho : k = .jsxOpening
  · subst ho
    exact ro_pragma (openingHook_ro _ _)
  · obtain ⟨d, h⟩ := importHook_frame (.mk k as ks) st
    rw [kindHook_calm o env k as ks st ho (.inl hrt), h]

/-- The pragma found in the comments is never changed by the traversal.  Stated for resolveType off. -/
theorem visit_pragma (o : Opts) (env : Env) (hrt : o.resolveType = false) :
    ∀ (n : Node) (pos : Pos) (st : St), (visit o env n pos st).2.pragma = st.pragma :=
  visit_frame pragma_blind o env (kindHook_pragma o env hrt)
    (fun _ _ _ => ro_pragma (exprHook_ro ..))

theorem visitKids_pragma (o : Opts) (env : Env) (hrt : o.resolveType = false) :
    ∀ (ks : List Node) (k : K) (pos : Pos) (i : Nat) (st : St), (visitKids o env k pos i ks st).2.pragma = st.pragma :=
  fun ks => visitKids_frame o env ks fun c _ => visit_pragma o env hrt c

end VueJsx
