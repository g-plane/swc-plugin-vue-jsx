/-
  C01 (continued) — for whole lists of plain attributes the props are exactly the written attributes: each once, in source
  order, under its full name (a namespaced name keeps its colon), with the value the property text gives it.
-/
import VueJsx.Lemmas.ElementEqs

namespace VueJsx
open Text

/-- the value the property text gives a plain attribute's written value -/
def specPlainValue (v : Node) : Option Node :=
  match v with
  | .mk .none _ _ => some (nBool true)
  | .mk .str (s :: _) _ => some (nStr (String.ofList (cleanText s.toList)))
  | .mk .jsxExprContainer _ [e] => some e
  | _ => none

/-- Specification (property text): the prop entry a plain attribute denotes; `none` for directives, spreads and
    element-valued attributes.  The name is read with the model's `attrNameOf` / `isDirectiveAttrName`, a string value
    cleaned with the model's `cleanText`. -/
def specPlainKV (a : Node) : Option Node :=
  match a with
  | .mk .jsxAttr _ [nameN, v] =>
    if isDirectiveAttrName (attrNameOf nameN) then none
    else
      let name : Option String :=
        match attrNameOf nameN with
        | .plain s => some s
        | .ns ns n => some (ns ++ ":" ++ n)
        | .bad => none
      match name, specPlainValue v with
      | some n, some x => some (nKV (nStr n) x)
      | _, _ => none
  | _ => none

theorem specPlainKV_eq_some {a kv : Node} (h : specPlainKV a = some kv) :
    ∃ as nameN v x, a = .mk .jsxAttr as [nameN, v] ∧ isDirectiveAttrName (attrNameOf nameN) = false ∧ specPlainValue v = some x
      ∧ kv = nKV (nStr (attrNameText nameN)) x := by
  unfold specPlainKV at h
  split at h
  · rename_i as nameN v
    split at h
    · cases h
    · rename_i hd
      refine ⟨as, nameN, v, ?_⟩
      unfold attrNameText
      -- three kinds of name, the value read or not: `h` refutes all but the two cases with a name and a value
      cases hN : attrNameOf nameN <;> cases hv : specPlainValue v <;> simp [hN, hv] at h
      case plain.some s x => exact ⟨x, rfl, by rw [← hN]; simpa using hd, rfl, h.symm⟩
      case ns.some n m x => exact ⟨x, rfl, by rw [← hN]; simpa using hd, rfl, h.symm⟩
  · cases h

theorem attrValueExpr_spec {v x : Node} (h : specPlainValue v = some x) (st : St) :
    attrValueExpr v none st = (x, st) ∧ v.kind ≠ .jsxElement ∧ v.kind ≠ .jsxFragment := by
  unfold specPlainValue at h
  split at h <;> cases h <;> exact ⟨rfl, by simp [Node.kind], by simp [Node.kind]⟩

/-- `st₀`, the state the value was lowered in, is any: nothing is lowered for such an attribute -/
theorem attrStep_plain_kv (o : Opts) (env : Env) (c : Bool) (a kv : Node) (acc : AttrAcc) (st₀ st : St)
    (hon : o.transformOn = false) (hkv : specPlainKV a = some kv) :
    (attrStep o c a (lowerAttr o env a st₀).1 acc st).1.content = (acc.props ++ [kv], acc.mergeArgs, acc.directives, acc.slots) := by
  obtain ⟨as, nameN, v, x, rfl, hd, hx, rfl⟩ := specPlainKV_eq_some hkv
  obtain ⟨hval, hk1, hk2⟩ := attrValueExpr_spec hx st
  rw [lowerAttr_plain hk1 hk2, attrStep_plain hd, plainCore_content_off _ _ _ _ _ _ _ (by simp [hon]), hval]

/-- For a whole list of plain attributes the pending props are the earlier ones followed by exactly the denoted entries, in
    source order; no merge argument, directive or slots value appears. -/
theorem C01_plain_attrs_exactly_written (o : Opts) (env : Env) (c : Bool) (hon : o.transformOn = false) :
    ∀ (attrs : List Node) (acc : AttrAcc) (st : St), (∀ a ∈ attrs, (specPlainKV a).isSome = true) →
      let r := (trAttrs o env c attrs acc st).1
      r.props = acc.props ++ attrs.filterMap specPlainKV ∧ r.mergeArgs = acc.mergeArgs ∧ r.directives = acc.directives
        ∧ r.slots = acc.slots := by
  -- `trAttrs_collects` would give the first conjunct alone; the induction carries the three kept fields along
  refine trAttrs_induct o env c (motive := fun attrs acc r => (∀ a ∈ attrs, (specPlainKV a).isSome = true) →
      r.props = acc.props ++ attrs.filterMap specPlainKV ∧ r.mergeArgs = acc.mergeArgs ∧ r.directives = acc.directives
        ∧ r.slots = acc.slots) (fun acc _ => by simp) (fun a rest st₀ acc st r ih h => ?_)
  obtain ⟨kv, hkv⟩ := Option.isSome_iff_exists.mp (h a List.mem_cons_self)
  obtain ⟨hp, hm, hd, hsl⟩ := AttrAcc.content_eq.mp (attrStep_plain_kv o env c a kv acc st₀ st hon hkv)
  obtain ⟨i1, i2, i3, i4⟩ := ih fun x hx => h x (List.mem_cons_of_mem _ hx)
  refine ⟨?_, i2.trans hm, i3.trans hd, i4.trans hsl⟩
  rw [i1, hp, List.filterMap_cons, hkv, List.append_assoc]
  rfl

/-- With mergeProps off, an element whose attributes are all plain receives as its props argument the object literal of
    exactly the denoted entries, in source order. -/
theorem C01_plain_element_props_object (o : Opts) (env : Env) (c : Bool) (hon : o.transformOn = false) (hmp : o.mergeProps = false)
    (a : Node) (rest : List Node) (st : St) (h : ∀ x ∈ a :: rest, (specPlainKV x).isSome = true) :
    (transformAttrs o env (a :: rest) c st).1.attrs = nObject ((a :: rest).filterMap specPlainKV) := by
  obtain ⟨h1, h2, -, -⟩ := C01_plain_attrs_exactly_written o env c hon (a :: rest) {} st h
  obtain ⟨kv, hkv⟩ := Option.isSome_iff_exists.mp (h a List.mem_cons_self)
  -- the first entry is a key/value pair: the props are not a lone spread, which `assembleProps` would pass on as it is
  obtain ⟨_, _, _, _, _, _, _, rfl⟩ := specPlainKV_eq_some hkv
  simp only [transformAttrs_cons, assembleProps_eq, h1, h2]
  simp [hkv, hmp, nKV, propsObject]

-- non-vacuity: three plain attributes, one namespaced, one value-less
private def tP (n : String) (v : Node) : Node := .mk .jsxAttr [] [.mk .ident [n] [], v]
private def tNs (a b : String) (v : Node) : Node :=
  .mk .jsxAttr [] [.mk .jsxNsName [] [.mk .ident [a] [], .mk .ident [b] []], v]
#guard [tP "id" (nStr " a\n  b "), tNs "xlink" "href" (.mk .jsxExprContainer [] [nStr "u"]), tP "disabled" (.mk .none [] [])].all
         (fun a => (specPlainKV a).isSome)
#guard ([tP "id" (nStr " a\n  b "), tNs "xlink" "href" (.mk .jsxExprContainer [] [nStr "u"]), tP "disabled" (.mk .none [] [])].filterMap
          specPlainKV).map (fun kv => match kv with | .mk .kv _ [.mk .str (k :: _) _, _] => k | _ => "?")
         == ["id", "xlink:href", "disabled"]

end VueJsx
