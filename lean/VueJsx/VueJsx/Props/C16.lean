/-
  C16 — resolveType derives exactly the declared props and their requiredness.
  Single arms of `resolveElements` and `resolveIndexed`, and `C16_grammar` for a grammar `PTy` of props types with its meaning
  `PTy.members`.
  `PTy` is a specification local to this file.  The refinement theorem of Props/C16c is about another, TypeSpec's `propsOfTypeG`;
  nothing links the two, and they differ on unions: `PTy.union` has the members of all parts, as the plugin computes them, where
  `propsOfTypeG` answers `.outside`.
-/
import VueJsx.Visitor
import VueJsx.Lemmas.TypeMembers
import VueJsx.Lemmas.ResolveEqs

namespace VueJsx

/-- An inline type literal: its property, method, getter (and call) signatures are what is resolved. -/
theorem C16_literal (fuel : Nat) (st : St) (as las : List String) (members : List Node) (hg : st.typeGaveUp = false) :
    resolveElements (fuel + 1) st (.mk .tsTypeLit as [.mk .list las members]) = (refineMembers members, st) := by
  simp [resolveElements, enterRes_ok hg]

theorem resolveElements_typeLit_refined {ms : List Node} (h : ∀ m ∈ ms, isRefined m = true) {fuel : Nat} {st : St}
    (hg : st.typeGaveUp = false) : resolveElements (fuel + 1) st (.mk .tsTypeLit [] [nList ms]) = (ms, st) := by
  rw [nList, C16_literal (hg := hg), refineMembers_eq, List.filter_eq_self.2 h]

/-- An alias is its target. -/
theorem C16_alias (fuel : Nat) (st : St) (n b : String) (ir : List String) (iks : List Node) (as : List String) (tp target : Node)
    (h : lookupReg st.typeAliases (n, b) = some target) (hg : st.typeGaveUp = false) :
    resolveElements (fuel + 1) st (.mk .tsTypeRef as [.mk .ident (n :: b :: ir) iks, tp]) = resolveElements fuel st target := by
  simp [resolveElements, h, enterRes_ok hg]

/-- Parentheses do not matter. -/
theorem C16_paren (fuel : Nat) (st : St) (as : List String) (t : Node) (hg : st.typeGaveUp = false) :
    resolveElements (fuel + 1) st (.mk .tsParen as [t]) = resolveElements fuel st t := by
  simp [resolveElements, enterRes_ok hg]

/-- `setOptional`, which `Partial<T>` / `Required<T>` apply to every member of T, keeps the key name, and the kind except for a getter
    signature under `Partial`. -/
theorem C16_partial_required_flags (v : Bool) (m : Node) :
    memberKeyName (setOptional v m) = memberKeyName m
    ∧ ((setOptional v m).kind = m.kind ∨ (v = true ∧ m.kind = .tsGetterSig ∧ (setOptional v m).kind = .tsPropSig)) := by
  unfold setOptional
  simp only
  split
  · next ks => cases ks <;> exact ⟨rfl, Or.inl rfl⟩
  · next ks => cases ks <;> exact ⟨rfl, Or.inl rfl⟩
  · next ks =>
    cases v
    · exact ⟨rfl, Or.inl rfl⟩
    · cases ks <;> exact ⟨rfl, Or.inr ⟨rfl, rfl, rfl⟩⟩
  · exact ⟨rfl, Or.inl rfl⟩

/-- `Partial` over a getter signature: the optional (readonly) property with the same key, computedness and type. -/
theorem C16_partial_over_getter (comp : String) (ks : List Node) :
    setOptional true (.mk .tsGetterSig [comp] ks) = .mk .tsPropSig ["true", comp, "true"] ks
    ∧ setOptional false (.mk .tsGetterSig [comp] ks) = .mk .tsGetterSig [comp] ks :=
  ⟨rfl, rfl⟩

theorem C16_partial_sets_optional (ro comp opt : String) (ks : List Node) :
    setOptional true (.mk .tsPropSig [ro, comp, opt] ks) = .mk .tsPropSig [ro, comp, "true"] ks
    ∧ setOptional false (.mk .tsPropSig [ro, comp, opt] ks) = .mk .tsPropSig [ro, comp, "false"] ks :=
  ⟨rfl, rfl⟩

/-- On statically keyed members the filters of `Pick<T, K>` and `Omit<T, K>` are complementary: to pass the one and to pass the other
    are different propositions (so exactly one holds). -/
theorem C16_pick_omit_partition (inner : List Node) (keys : List String)
    (hkeyed : ∀ m ∈ inner, ∃ k, memberKeyName m = some (some k)) :
    ∀ m ∈ inner,
      (m ∈ inner.filter (fun m => match memberKeyName m with | some (some k) => keys.contains k | _ => false))
        ≠ (m ∈ inner.filter (fun m => match memberKeyName m with | some (some k) => !keys.contains k | _ => true)) := by
  intro m hm
  obtain ⟨k, hk⟩ := hkeyed m hm
  simp only [List.mem_filter, hm, true_and, hk]
  simp

theorem irUpdate_fresh {irs : List PropIr} {key : Node} {f : PropIr → PropIr} {fresh : PropIr}
    (hnew : irs.any (fun ir => ir.key == key) = false) : irUpdate irs key f fresh = irs ++ [fresh] := by
  simp [irUpdate, hnew]

/-- `irUpdate` at a key no entry has yet appends the entry given; here the one `propStep` passes, with `required := !optional`. -/
theorem C16_required_iff_not_optional (irs : List PropIr) (key : Node) (types : List RT) (optional : Bool)
    (hnew : irs.any (fun ir => ir.key == key) = false) :
    irUpdate irs key (fun ir => ir) { key := key, types := types, required := !optional }
      = irs ++ [{ key := key, types := types, required := !optional }] :=
  irUpdate_fresh hnew

/-- A reference bound in the file that is neither a local alias nor a local interface (an import) is reported. -/
theorem C16_imported_type_reported (fuel : Nat) (st : St) (n b : String) (ir : List String) (iks : List Node) (as : List String) (tp : Node)
    (h1 : lookupReg st.typeAliases (n, b) = none) (h2 : lookupReg st.interfaces (n, b) = none) (hb : b ≠ "u") (hg : st.typeGaveUp = false) :
    resolveElements (fuel + 1) st (.mk .tsTypeRef as [.mk .ident (n :: b :: ir) iks, tp])
      = ([], st.err "Error: Types from other modules can't be resolved.") := by
  simp [resolveElements, h1, h2, hb, enterRes_ok hg]

/-- An undeclared global name that is not one of the supported utility types is reported. -/
theorem C16_unknown_global_reported (fuel : Nat) (st : St) (n : String) (ir : List String) (iks : List Node) (as : List String) (tp : Node)
    (h1 : lookupReg st.typeAliases (n, "u") = none) (h2 : lookupReg st.interfaces (n, "u") = none)
    (hn : n ≠ "Partial" ∧ n ≠ "Required" ∧ n ≠ "Pick" ∧ n ≠ "Omit") (hg : st.typeGaveUp = false) :
    resolveElements (fuel + 1) st (.mk .tsTypeRef as [.mk .ident (n :: "u" :: ir) iks, tp])
      = ([], st.err "Error: Unresolvable type reference or unsupported built-in utility type.") := by
  simp [resolveElements, h1, h2, hn.1, hn.2.1, hn.2.2.1, hn.2.2.2, enterRes_ok hg]

/-- A keyword type is reported (by the catch-all arm of `resolveElements`, where keyof, typeof, mapped types, … end too). -/
theorem C16_unsupported_construct_reported (fuel : Nat) (st : St) (as : List String) (ks : List Node) (hg : st.typeGaveUp = false) :
    resolveElements (fuel + 1) st (.mk .tsKeyword as ks) = ([], st.err "Error: Unresolvable type.") := by
  simp [resolveElements, enterRes_ok hg]

theorem aliasHook_registers (as : List String) (id tp ty : Node) (st : St) :
    lookupReg (aliasHook (.mk .tsAlias as [id, tp, ty]) st).typeAliases (identName id, identBind id) = some ty := by
  unfold aliasHook
  simp only
  split
  · exact lookupReg_replace ‹_›
  · exact lookupReg_append_new (Option.not_isSome_iff_eq_none.mp ‹_›)

/-- With `resolveType` on, `transformModule` starts the traversal from the state `collectTypes` leaves: the registry is filled from
    the whole module first.  (That the traversal does not write it is not in the statement.) -/
theorem C16_registry_from_whole_module (o : Opts) (env : Env) (as las : List String) (items rest : List Node) (h : o.resolveType = true) :
    ∃ st0, st0 = collectTypes (.mk .module as (.mk .list las items :: rest)) (scanPragmas env {})
      ∧ (transformModule o env (.mk .module as (.mk .list las items :: rest))).1
          = .mk .module as (.mk .list las
              (finishModule (visitKids o env .list .normal 0 items st0).1
                (visitKids o env .module .normal 1 rest (visitKids o env .list .normal 0 items st0).2).2).1
              :: (visitKids o env .module .normal 1 rest (visitKids o env .list .normal 0 items st0).2).1) := by
  refine ⟨_, rfl, ?_⟩
  simp [transformModule, h]

/-- a declared property `name: ty` (`'name'` if `quoted`, `?` if `optional`) -/
structure Mem where
  name : String
  quoted : Bool
  optional : Bool
  ty : Node

def Mem.keyNode (m : Mem) : Node := if m.quoted then .mk .str [m.name] [] else .mk .ident [m.name, "n"] []
def Mem.toNode (m : Mem) : Node :=
  .mk .tsPropSig ["false", "false", if m.optional then "true" else "false"] [m.keyNode, .mk .tsTypeAnn [] [m.ty]]
/-- the key as it is emitted -/
def Mem.pname (m : Mem) : Node := if m.quoted then .mk .str [m.name] [] else nIdentName m.name

/-- props types: literal, parentheses, intersection, union, `Partial<T>`, `Required<T>` -/
inductive PTy where
  | lit (ms : List Mem)
  | paren (t : PTy)
  | inter (ts : List PTy)
  | union (ts : List PTy)
  | partial_ (t : PTy)
  | required_ (t : PTy)

mutual
def PTy.toNode : PTy → Node
  | .lit ms => .mk .tsTypeLit [] [nList (ms.map Mem.toNode)]
  | .paren t => .mk .tsParen [] [t.toNode]
  | .inter ts => .mk .tsIntersection [] [nList (PTy.toNodes ts)]
  | .union ts => .mk .tsUnion [] [nList (PTy.toNodes ts)]
  | .partial_ t => .mk .tsTypeRef [] [nIdent "Partial" "u", .mk .tsTypeParamInst [] [nList [t.toNode]]]
  | .required_ t => .mk .tsTypeRef [] [nIdent "Required" "u", .mk .tsTypeParamInst [] [nList [t.toNode]]]
def PTy.toNodes : List PTy → List Node
  | [] => []
  | t :: ts => t.toNode :: PTy.toNodes ts
end

mutual
/-- the meaning: the declared members, left to right (of a union: those of all its parts, as the plugin has it) -/
def PTy.members : PTy → List Mem
  | .lit ms => ms
  | .paren t => t.members
  | .inter ts => PTy.membersL ts
  | .union ts => PTy.membersL ts
  | .partial_ t => t.members.map fun m => { m with optional := true }
  | .required_ t => t.members.map fun m => { m with optional := false }
def PTy.membersL : List PTy → List Mem
  | [] => []
  | t :: ts => t.members ++ PTy.membersL ts
end

mutual
def PTy.depth : PTy → Nat
  | .lit _ => 1
  | .paren t => 1 + t.depth
  | .inter ts => 1 + PTy.depthL ts
  | .union ts => 1 + PTy.depthL ts
  | .partial_ t => 1 + t.depth
  | .required_ t => 1 + t.depth
def PTy.depthL : List PTy → Nat
  | [] => 0
  | t :: ts => max t.depth (PTy.depthL ts)
end

/-- no name resolves (so nothing shadows `Partial` / `Required`), and no resolution has given up -/
def NoReg16 (st : St) : Prop :=
  (∀ key, lookupReg st.typeAliases key = none ∧ lookupReg st.interfaces key = none) ∧ st.typeGaveUp = false

theorem map_setOptional (v : Bool) (ms : List Mem) :
    (ms.map Mem.toNode).map (setOptional v) = (ms.map fun m => ({ m with optional := v } : Mem)).map Mem.toNode := by
  simp only [List.map_map, List.map_inj_left, Function.comp_apply]
  intro m _
  rfl

mutual
theorem resolveElements_eq_members : ∀ (t : PTy) (fuel : Nat) (st : St), NoReg16 st → t.depth ≤ fuel →
    resolveElements fuel st t.toNode = (t.members.map Mem.toNode, st)
  | t, 0, _, _, hd => by cases t <;> simp [PTy.depth] at hd
  | .lit ms, f + 1, st, hr, _ => by
    rw [PTy.toNode, resolveElements_typeLit_refined (List.forall_mem_map.2 fun _ _ => rfl) hr.2, PTy.members]
  | .paren t, f + 1, st, hr, hd => by
    rw [PTy.toNode, C16_paren (hg := hr.2), PTy.members]
    exact resolveElements_eq_members t f st hr (by simp [PTy.depth] at hd; omega)
  | .inter ts, f + 1, st, hr, hd | .union ts, f + 1, st, hr, hd => by
    rw [PTy.toNode, nList, resolveElements_parts ?_ hr.2, PTy.members]
    · exact resolveElementsL_eq_members ts f st [] hr (by simp [PTy.depth] at hd; omega)
    · simp
  | .partial_ t, f + 1, st, hr, hd => by
    rw [PTy.toNode, nIdent, resolveElements_partial_required true (n := "Partial") (hr.1 _).1 (hr.1 _).2 rfl rfl hr.2,
      resolveElements_eq_members t f st hr (by simp [PTy.depth] at hd; omega), PTy.members, map_setOptional]
  | .required_ t, f + 1, st, hr, hd => by
    rw [PTy.toNode, nIdent, resolveElements_partial_required false (n := "Required") (hr.1 _).1 (hr.1 _).2 rfl rfl hr.2,
      resolveElements_eq_members t f st hr (by simp [PTy.depth] at hd; omega), PTy.members, map_setOptional]
theorem resolveElementsL_eq_members : ∀ (ts : List PTy) (fuel : Nat) (st : St) (acc : List Node), NoReg16 st →
    PTy.depthL ts ≤ fuel →
    (PTy.toNodes ts).foldl (fun (acc : List Node × St) t =>
        let (more, st) := resolveElements fuel acc.2 t; (acc.1 ++ more, st)) (acc, st)
      = (acc ++ (PTy.membersL ts).map Mem.toNode, st)
  | [], _, _, _, _, _ => by simp [PTy.toNodes, PTy.membersL]
  | t :: ts, fuel, st, acc, hr, hd => by
    have hd' : t.depth ≤ fuel ∧ PTy.depthL ts ≤ fuel := by simp [PTy.depthL] at hd; omega
    have h1 := resolveElements_eq_members t fuel st hr hd'.1
    have h2 := resolveElementsL_eq_members ts fuel st (acc ++ t.members.map Mem.toNode) hr hd'.2
    simp only [PTy.toNodes, List.foldl, h1, PTy.membersL]
    rw [h2]; simp
end

/-- what `C16_grammar` observes of an entry: key and `required` -/
def keyReq (irs : List PropIr) : List (Node × Bool) := irs.map fun ir => (ir.key, ir.required)

theorem extractPropName_mem (m : Mem) (st : St) : extractPropName m.keyNode false st = (m.pname, st) := by
  obtain ⟨n, q, o, ty⟩ := m
  cases q <;> rfl

theorem propStep_mem (irs : List PropIr) (st : St) (m : Mem)
    (hnew : irs.any (fun ir => ir.key == m.pname) = false) :
    ∃ types st', propStep (irs, st) m.toNode = (irs ++ [{ key := m.pname, types := types, required := !m.optional }], st') := by
  have hft : ("false" == "true") = false := by decide
  refine ⟨(inferRuntime FUEL st m.ty).1, (inferRuntime FUEL st m.ty).2, ?_⟩
  simp only [propStep, Mem.toNode, typeAnnInner, hft, extractPropName_mem]
  rw [irUpdate_fresh hnew]
  cases m.optional <;> rfl            -- `propStep` reads the flag back from its spelling

/-- no two members emit the same key (`propStep` would update the earlier entry) -/
def DistinctKeys (ms : List Mem) : Prop := ms.Pairwise fun a b => (a.pname == b.pname) = false

theorem propFold_mems : ∀ (ms : List Mem) (irs : List PropIr) (st : St),
    (∀ ir ∈ irs, ∀ m ∈ ms, (ir.key == m.pname) = false) → DistinctKeys ms →
    ∃ irs' st', (ms.map Mem.toNode).foldl propStep (irs, st) = (irs', st')
      ∧ keyReq irs' = keyReq irs ++ ms.map fun m => (m.pname, !m.optional)
  | [], irs, st, _, _ => ⟨irs, st, rfl, by simp⟩
  | m :: ms, irs, st, hsep, hd => by
    have hd' := List.pairwise_cons.mp hd
    obtain ⟨types, st1, h1⟩ := propStep_mem irs st m
      (List.any_eq_false.mpr fun ir hir => by simp [hsep ir hir m (by simp)])
    obtain ⟨irs', st', h2, h3⟩ := propFold_mems ms (irs ++ [⟨m.pname, types, !m.optional⟩]) st1 (fun ir hir m' hm' => by
      rcases List.mem_append.mp hir with hir | hir
      · exact hsep ir hir m' (List.mem_cons_of_mem _ hm')
      · cases List.mem_singleton.mp hir; exact hd'.1 m' hm') hd'.2
    refine ⟨irs', st', ?_, ?_⟩
    · simp only [List.map, List.foldl, h1, h2]
    · rw [h3]; simp [keyReq]

theorem emitProp_shape (ir : PropIr) :
    ∃ tyExpr, emitProp none ir = nKV ir.key (nObject [nKV (nIdentName "type") tyExpr, nKV (nIdentName "required") (nBool ir.required)]) :=
  ⟨_, rfl⟩

/-- For every type of the grammar, nested to any depth the code's limit admits, property types arbitrary: the emitted props
    object has exactly the declared keys, in declaration order, each `required` exactly when the (possibly rewritten)
    declaration is not optional. -/
theorem C16_grammar (t : PTy) (st : St) (hr : NoReg16 st) (hd : t.depth ≤ FUEL) (hk : DistinctKeys t.members) :
    ∃ irs st', buildPropsType st t.toNode none = (nObject (irs.map (emitProp none)), st')
      ∧ keyReq irs = t.members.map fun m => (m.pname, !m.optional) := by
  obtain ⟨irs, st', h1, h2⟩ := propFold_mems t.members [] st (by simp) hk
  refine ⟨irs, st', ?_, by simpa [keyReq] using h2⟩
  simp only [buildPropsType, resolveElements_eq_members t FUEL st hr hd, h1]

/-- non-vacuity -/
example :
    let t := PTy.inter [.lit [⟨"id", false, false, .mk .tsKeyword ["string"] []⟩],
                        .partial_ (.paren (.lit [⟨"size", false, false, .mk .tsKeyword ["number"] []⟩, ⟨"aria-label", true, false, .mk .tsKeyword ["string"] []⟩]))]
    t.depth ≤ FUEL ∧ (t.members.map fun m => (m.name, !m.optional)) = [("id", true), ("size", false), ("aria-label", false)] := by
  decide

/-- `specRegistry` is `collectTypes` from the empty state, by `rfl`: `specIfaceMerge` is the code of `ifaceHook` once more, folded with
    the model's own `aliasHook` over the model's `allNodes`.  One function under two names, not two readings that agree. -/
theorem C16_spec_registry_is_the_models (m : Node) : specRegistry m = collectTypes m {} := rfl

/-- Declaration merging: a further declaration of an interface contributes its members and its `extends` clause. -/
theorem C16_merged_interface_keeps_extends (as as0 eas eas0 bas bas0 las las0 : List String) (id id0 tp tp0 : Node)
    (ext ext0 members members0 : List Node) (st : St)
    (h : lookupReg st.interfaces (identName id, identBind id)
          = some (.mk .tsIface as0 [id0, tp0, .mk .list eas0 ext0, .mk .tsIfaceBody bas0 [.mk .list las0 members0]])) :
    lookupReg (ifaceHook (.mk .tsIface as [id, tp, .mk .list eas ext, .mk .tsIfaceBody bas [.mk .list las members]]) st).interfaces
        (identName id, identBind id)
      = some (.mk .tsIface as0 [id0, tp0, .mk .list eas0 (ext0 ++ ext), .mk .tsIfaceBody bas0 [.mk .list las0 (members0 ++ members)]]) := by
  simp only [ifaceHook, h]
  exact lookupReg_replace (by simp [h])

/-- the step of the fold over the `extends` clause inside `resolveElements` (its own code, named) -/
def extendsStep (fuel : Nat) (acc : List Node × St) (parent : Node) : List Node × St :=
  match parent with
  | .mk .tsExprWithTypeArgs _ [.mk .ident ias _, targs] =>
    let (more, st) := resolveElements fuel acc.2 (.mk .tsTypeRef [] [.mk .ident ias [], targs])
    (acc.1 ++ more, st)
  | _ => (acc.1, acc.2.err "Error: Unresolvable type.")

/-- An interface is its own members followed by what each parent of its `extends` clause resolves to, in order. -/
theorem C16_interface_extends (fuel : Nat) (st : St) (n b : String) (ir as ias eas bas las : List String) (iks : List Node) (tp id tps : Node)
    (ext members : List Node)
    (h1 : lookupReg st.typeAliases (n, b) = none)
    (h2 : lookupReg st.interfaces (n, b) = some (.mk .tsIface ias [id, tps, .mk .list eas ext, .mk .tsIfaceBody bas [.mk .list las members]]))
    (hg : st.typeGaveUp = false) :
    resolveElements (fuel + 1) st (.mk .tsTypeRef as [.mk .ident (n :: b :: ir) iks, tp])
      = ext.foldl (extendsStep fuel) (refineMembers members, st) := by
  simp only [resolveElements, h1, h2, enterRes_ok hg]
  rfl                               -- the fold's step is `extendsStep fuel` unfolded

/-- `extends Partial<B>`, `extends Pick<B, K>`: the parent is resolved as the type reference written in the clause,
    type arguments included. -/
theorem C16_extends_parent_with_arguments (fuel : Nat) (acc : List Node) (st : St) (as : List String) (ias : List String) (iks : List Node) (targs : Node) :
    extendsStep fuel (acc, st) (.mk .tsExprWithTypeArgs as [.mk .ident ias iks, targs])
      = (acc ++ (resolveElements fuel st (.mk .tsTypeRef [] [.mk .ident ias [], targs])).1,
         (resolveElements fuel st (.mk .tsTypeRef [] [.mk .ident ias [], targs])).2) :=
  rfl

/-- `extends NS.B` (a parent that is not a plain identifier) is reported. -/
theorem C16_extends_qualified_reported (fuel : Nat) (acc : List Node) (st : St) (as mas : List String) (mks : List Node) (targs : Node) :
    extendsStep fuel (acc, st) (.mk .tsExprWithTypeArgs as [.mk .member mas mks, targs])
      = (acc, st.err "Error: Unresolvable type.") :=
  rfl

/-- Indexed access into an interface reaches inherited members: when the interface's own members do not have the key and its
    one parent resolves the access to `t`, not a union, the access is `t`. -/
theorem C16_indexed_access_inherited (fuel : Nat) (st st' : St) (n b : String) (ir as ias eas bas las pas pias : List String)
    (iks piks : List Node) (tp id tps targs index t : Node) (members : List Node)
    (h1 : lookupReg st.typeAliases (n, b) = none)
    (h2 : lookupReg st.interfaces (n, b) = some (.mk .tsIface ias [id, tps, .mk .list eas [.mk .tsExprWithTypeArgs pas [.mk .ident pias piks, targs]],
            .mk .tsIfaceBody bas [.mk .list las members]]))
    (hsel : selectMembers fuel st members index = ([], st))
    (hp : resolveIndexed fuel st (.mk .tsTypeRef [] [.mk .ident pias [], targs]) index = (some t, st'))
    (ht : t.kind ≠ .tsUnion)
    (hg : st.typeGaveUp = false) :
    resolveIndexed (fuel + 1) st (.mk .tsTypeRef as [.mk .ident (n :: b :: ir) iks, tp]) index = (some t, st') := by
  simp only [resolveIndexed, h1, h2, enterRes_ok hg, hsel, List.foldl, hp]
  -- `pack`'s two cases, and inside each the three of the fold's step on the parent's answer
  split
  · next p heq =>
    split at heq
    · next h => cases h; exact absurd rfl ht
    · next h => cases h; cases heq; rfl
    · next h => cases h
  · next hne =>
    split at hne
    · next h => cases h; exact absurd rfl ht
    · exact absurd rfl (hne _)
    · next h => cases h

/-- Indexed access into an intersection goes into the type literal made of its resolved members. -/
theorem C16_indexed_access_into_intersection (fuel : Nat) (st : St) (as : List String) (ks : List Node) (index : Node)
    (hg : st.typeGaveUp = false) :
    resolveIndexed (fuel + 1) st (.mk .tsIntersection as ks) index
      = resolveIndexed fuel (resolveElements fuel st (.mk .tsIntersection as ks)).2
          (.mk .tsTypeLit [] [nList (resolveElements fuel st (.mk .tsIntersection as ks)).1]) index := by
  simp [resolveIndexed, enterRes_ok hg]

/-- Indexed access into a parenthesised type goes into the type. -/
theorem C16_indexed_access_paren (fuel : Nat) (st : St) (as : List String) (t index : Node) (hg : st.typeGaveUp = false) :
    resolveIndexed (fuel + 1) st (.mk .tsParen as [t]) index = resolveIndexed fuel st t index := by
  simp [resolveIndexed, enterRes_ok hg]

/-- Indexed access into `Partial<T>` / `Required<T>` / `Pick<T, K>` / `Omit<T, K>` (not shadowed by a declaration) goes into the type
    literal made of the members the utility type resolves to. -/
theorem C16_indexed_access_into_utility (fuel : Nat) (st : St) (n : String) (ir as : List String) (iks : List Node) (tp index : Node)
    (hn : n = "Partial" ∨ n = "Required" ∨ n = "Pick" ∨ n = "Omit")
    (h1 : lookupReg st.typeAliases (n, "u") = none) (h2 : lookupReg st.interfaces (n, "u") = none)
    (hg : st.typeGaveUp = false) :
    resolveIndexed (fuel + 1) st (.mk .tsTypeRef as [.mk .ident (n :: "u" :: ir) iks, tp]) index
      = resolveIndexed fuel (resolveElements fuel st (.mk .tsTypeRef as [.mk .ident (n :: "u" :: ir) iks, tp])).2
          (.mk .tsTypeLit [] [nList (resolveElements fuel st (.mk .tsTypeRef as [.mk .ident (n :: "u" :: ir) iks, tp])).1]) index := by
  simp only [resolveIndexed, enterRes_ok hg, h1, h2]
  rcases hn with rfl | rfl | rfl | rfl <;> rfl

end VueJsx
