/- C04 — Directives reach the runtime with the right definition, value, arg and modifiers. -/
import VueJsx.Lemmas.AttrsEqs
import VueJsx.Element

namespace VueJsx
open Text

/-- Only the first letter of a directive name is lower-cased. -/
theorem C04_name_first_letter_only (c : Char) (cs : List Char) : lowerFirst (c :: cs) = asciiLower c :: cs := rfl

/-- A non-namespaced spelling has no name-level argument: every `_` suffix is a modifier. -/
theorem C04_plain_name_no_argument (s : String) : (dirNameParts (.plain s)).2.1 = none := by
  simp only [dirNameParts]
  split <;> rfl

/-- For `v-name:arg_m1_m2` the argument is the part of the local name before the first `_`
    and the modifiers are the remaining `_` pieces. -/
theorem C04_namespaced_argument (ns name : String) (a : List Char) (rest : List (List Char))
    (h : splitOn '_' name.toList = a :: rest) :
    (dirNameParts (.ns ns name)).2 = (some (String.ofList a), rest.map String.ofList) := by
  simp [dirNameParts, h]

/-- `v-show` binds Vue's vShow. -/
theorem C04_show_is_vShow (tagN : Node) (attrs : List Node) (st : St) :
    resolveDirective "show" tagN attrs st = st.importFromVue "vShow" := rfl

/-- Any other (non-model) directive is resolved at runtime under its written name. -/
theorem C04_custom_resolved_by_name (name : String) (tagN : Node) (attrs : List Node) (st : St)
    (h1 : name ≠ "show") (h2 : name ≠ "model") :
    resolveDirective name tagN attrs st =
      (nCall (st.importFromVue "resolveDirective").1 [nArg (nStr name)], (st.importFromVue "resolveDirective").2) := by
  simp [resolveDirective, h1, h2]

/-- A non-array expression is the directive's value; the argument comes from the name, the modifiers are the `_` suffixes,
    each `true`; before modifiers `void 0` stands in for a missing argument. -/
theorem C04_expression_value (name : AttrName) (e : Node) (cas : List String) (isComp : Bool) (st : St)
    (hname : ∀ d, (dirNameParts name).1 = d → d ≠ "html" ∧ d ≠ "text" ∧ d ≠ "model" ∧ d ≠ "slots")
    (he : arrayElems e = none) (hne : ∀ a k, e ≠ .mk .jsxEmpty a k) :
    (parseDirective name (.mk .jsxExprContainer cas [e]) isComp st).1 =
      let mods := setOfList (dirNameParts name).2.2
      let arg0 := (dirNameParts name).2.1.map nStr
      let arg := if !mods.isEmpty then (match arg0 with | some a => some a | none => some nVoid0) else arg0
      Dir.normal (dirNameParts name).1 arg (transformModifiers mods false) e := by
  obtain ⟨h1, h2, h3, h4⟩ := hname _ rfl
  rw [parseDirective_eq]
  simp only [beq_iff_eq, h1, h2, h3, h4, if_false]
  rw [normalTuple_array, containerExpr_of_expr hne]
  simp only [he]
  rfl

/-- The array form `[value, arg]` without a modifier list: the value is the first element, the argument comes from the name or
    else is the second element, and the modifiers are the `_mod` suffixes of the name, each `true`. -/
theorem C04_array_argument_keeps_suffix_modifiers (name : AttrName) (e v second : Node) (cas : List String) (isComp : Bool) (st : St)
    (hname : ∀ d, (dirNameParts name).1 = d → d ≠ "html" ∧ d ≠ "text" ∧ d ≠ "model" ∧ d ≠ "slots")
    (hne : ∀ a k, e ≠ .mk .jsxEmpty a k)
    (he : ∃ elems, arrayElems e = some elems ∧ plainElem elems 0 = some v ∧ plainElem elems 1 = some second ∧ plainElem elems 2 = none)
    (hs : arrayElems second = none) :
    (parseDirective name (.mk .jsxExprContainer cas [e]) isComp st).1 =
      let mods := setOfList (dirNameParts name).2.2
      let arg0 : Option Node := match (dirNameParts name).2.1 with | some a => some (nStr a) | none => some second
      Dir.normal (dirNameParts name).1 arg0 (transformModifiers mods false) v := by
  obtain ⟨h1, h2, h3, h4⟩ := hname _ rfl
  obtain ⟨elems, he, h0, hs1, hs2⟩ := he
  rw [parseDirective_eq]
  simp only [beq_iff_eq, h1, h2, h3, h4, if_false]
  rw [normalTuple_array, containerExpr_of_expr hne]
  simp only [he, arrayForm, h0, hs1, hs2, hs, Option.getD_some, Option.bind_none]
  -- there is an argument in either case, so `void 0` never stands in, whatever the modifiers
  cases (dirNameParts name).2.1 <;> cases setOfList (dirNameParts name).2.2 <;> rfl

/-- A runtime directive leaves the pending props, merge arguments and dynamic-prop list as they were. -/
theorem C04_frame (o : Opts) (isComp : Bool) (nameN valueN : Node) (as : List String) (acc : AttrAcc) (st : St)
    (n : String) (arg mods : Option Node) (v : Node) (st' : St)
    (hd : isDirectiveAttrName (attrNameOf nameN) = true)
    (hp : parseDirective (attrNameOf nameN) valueN isComp st = (.normal n arg mods v, st')) :
    let r := (attrStep o isComp (.mk .jsxAttr as [nameN, valueN]) none acc st).1
    r.props = acc.props ∧ r.mergeArgs = acc.mergeArgs ∧ r.dynamicProps = acc.dynamicProps
      ∧ r.directives = acc.directives ++ [(n, arg, mods, v)] := by
  rw [attrStep_directive hd, hp]
  exact ⟨rfl, rfl, rfl, rfl⟩

/-- `v-html` sets the `innerHTML` prop to the value and adds no binding. -/
theorem C04_html_sets_innerHTML (o : Opts) (isComp : Bool) (nameN valueN : Node) (as : List String) (acc : AttrAcc)
    (st st' : St) (e : Node)
    (hd : isDirectiveAttrName (attrNameOf nameN) = true)
    (hp : parseDirective (attrNameOf nameN) valueN isComp st = (.html e, st')) :
    let r := (attrStep o isComp (.mk .jsxAttr as [nameN, valueN]) none acc st).1
    r.props = acc.props ++ [nKV (nStr "innerHTML") e] ∧ r.directives = acc.directives := by
  rw [attrStep_directive hd, hp]
  exact ⟨rfl, rfl⟩

/-- `v-text` sets the `textContent` prop to the value and adds no binding. -/
theorem C04_text_sets_textContent (o : Opts) (isComp : Bool) (nameN valueN : Node) (as : List String) (acc : AttrAcc)
    (st st' : St) (e : Node)
    (hd : isDirectiveAttrName (attrNameOf nameN) = true)
    (hp : parseDirective (attrNameOf nameN) valueN isComp st = (.text e, st')) :
    let r := (attrStep o isComp (.mk .jsxAttr as [nameN, valueN]) none acc st).1
    r.props = acc.props ++ [nKV (nStr "textContent") e] ∧ r.directives = acc.directives := by
  rw [attrStep_directive hd, hp]
  exact ⟨rfl, rfl⟩

#guard (dirNameParts (.plain "vMyDir")).1 == "myDir"
#guard (dirNameParts (.plain "v-my-dir_a_b")) == ("my-dir", none, ["a", "b"])
#guard (dirNameParts (.ns "v-foo" "arg_m")) == ("foo", some "arg", ["m"])

end VueJsx
