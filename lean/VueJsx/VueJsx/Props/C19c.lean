/-
  C19, continued — refinement against TypeSpec's `emitsOfType`, the oracle's reading of an emits type; see `C19_emits_option_is_spec`.
-/
import VueJsx.Props.C16c
import VueJsx.Props.C19

namespace VueJsx

/- `resolveElements` and the specification spend the fuel in lockstep, so `C16_refines_spec` holds at every `fuel`, with no bound.
   `emitStep` does not: it resolves the parameter type of a call signature with the full `FUEL`, where `emitsOfType` goes on with
   what it has left.  Hence `fuel ≤ FUEL` in `C19_refines_spec`, and this lemma. -/
theorem literalStrings_le : ∀ (f g : Nat) (st : St) (t : Node) (ks : List String), f ≤ g →
    literalStrings f st t = some ks → literalStrings g st t = some ks
  | 0, _, _, _, _, _, h => nomatch h
  | f + 1, 0, _, _, _, hle, _ => absurd hle (by omega)
  | f + 1, g + 1, st, t, ks, hle, h => by
    have ih := fun t ks => literalStrings_le f g st t ks (by omega)
    unfold literalStrings at h ⊢
    split at h
    · exact h
    · exact h
    · exact ih _ _ h
    · -- union
      refine List.foldl_rel (r := fun (a b : Option (List String)) => ∀ ks, a = some ks → b = some ks) (fun _ h => h)
        (fun t _ a b hab ks hk => ?_) ks h
      split at hk
      · next _ _ x y hy => cases hk; rw [hab x rfl, ih t y hy]
      · cases hk
    · -- type reference
      split at h
      · exact ih _ _ h
      · cases h
    · cases h

theorem emitStep_other {m : Node} (acc : List String × St)
    (h1 : ∀ as las ps r, m = .mk .tsCallSig as (.mk .list las ps :: r) → False)
    (h2 : ∀ as k r, m = .mk .tsPropSig as (k :: r) → False) (h3 : ∀ as k r, m = .mk .tsMethodSig as (k :: r) → False) :
    emitStep acc m = acc := by
  unfold emitStep
  split
  · exact absurd rfl (h1 _ _ _ _)
  · rfl
  · next h4 => rw [memberKeyName_none h2 h3 fun _ _ _ => h4 _ _]

theorem foldl_emitStep_refine (ms : List Node) (acc : List String × St) :
    (refineMembers ms).foldl emitStep acc = ms.foldl emitStep acc := by
  rw [refineMembers_eq, List.foldl_filter]
  congr
  funext a m
  split
  · rfl
  · -- a member `refineMembers` drops contributes no event name
    next h =>
    symm
    apply emitStep_other <;> (intros; subst m; simp [isRefined] at h)

theorem resolveStrings_of_spec_le {f g : Nat} {st : St} {t : Node} {ks : List String} (hle : f ≤ g)
    (hg : st.typeGaveUp = false) (h : literalStrings f st t = some ks) : resolveStrings g st t = (ks, st) :=
  literalStrings_refines g st t ks hg (literalStrings_le f g st t ks hle h)

/-- where the specification's step takes `some a` to `some ns`, the model's takes `acc ++ a` to `acc ++ ns`, in `st` -/
theorem emitStep_spec {fuel : Nat} {st : St} (hle : fuel ≤ FUEL) (hg : st.typeGaveUp = false) {a ns : List String} {m : Node}
    (h : emitMemberSpec fuel st (some a) m = some ns) (acc : List String) : emitStep (acc ++ a, st) m = (acc ++ ns, st) := by
  unfold emitMemberSpec at h
  split at h
  · -- call signature
    next heq =>
    cases heq
    split at h
    · next t ht =>
      obtain ⟨ks, hks, rfl⟩ := Option.map_eq_some_iff.mp h
      simpa using Carries.callSig (by rw [ht]; exact resolveStrings_of_spec_le hle hg hks) (acc ++ a)
    · next ht => cases h; simpa using Carries.callSig (ks := []) (by rw [ht]) (acc ++ a)
  · -- property
    next as k _ heq =>
    cases heq; cases h
    simp only [emitStep, memberKeyName_propSig, staticKeyName_eq]
    cases (specKeyC (as.getD 1 "false") k).bind pickName <;> simp
  · -- method
    next as k _ heq =>
    cases heq; cases h
    simp only [emitStep, memberKeyName_methodSig, staticKeyName_eq]
    cases (specKeyC (as.headD "false") k).bind pickName <;> simp
  · -- other member
    next heq h1 h2 h3 =>
    cases heq; cases h
    exact emitStep_other _ h1 h2 h3
  · next heq => cases heq      -- `none`

theorem Carries.members {fuel : Nat} {st : St} (hle : fuel ≤ FUEL) (hg : st.typeGaveUp = false) {members : List Node}
    {names : List String} (h : emitsOfMembers fuel st members [] = some names) : Carries st (refineMembers members) names := by
  intro acc
  rw [foldl_emitStep_refine]
  refine List.foldl_rel (r := fun (a : List String × St) c => ∀ ns, c = some ns → a = (acc ++ ns, st))
    (fun _ h => by cases h; simp) (fun m _ a c ha ns hns => ?_) names h
  cases c with
  | none => cases hns
  | some x => rw [ha x rfl]; exact emitStep_spec hle hg hns acc

/-- `Reads` (Props/C16c) for event names -/
def Names (st : St) (r : List Node × St) (c : Option (List String)) : Prop :=
  ∀ ns, c = some ns → r.2 = st ∧ Carries st r.1 ns

theorem Names.append {st : St} {acc r : List Node × St} {a b : List String}
    (ha : Names st acc (some a)) (hr : acc.2 = st → Names st r (some b)) : Names st (acc.1 ++ r.1, r.2) (some (a ++ b)) := by
  intro ns h
  cases h
  obtain ⟨a2, a1⟩ := ha a rfl
  obtain ⟨b2, b1⟩ := hr a2 b rfl
  exact ⟨b2, a1.append b1⟩

theorem names_resolveElements : ∀ (fuel : Nat) (st : St) (ty : Node), fuel ≤ FUEL → st.typeGaveUp = false →
    Names st (resolveElements fuel st ty) (emitsOfType fuel st ty)
  | 0, _, _, _, _ => nofun
  | fuel + 1, st, ty, hle, hg => by
    have hle' : fuel ≤ FUEL := by omega
    have ih := fun t => names_resolveElements fuel st t hle' hg
    -- `ih` at a fold's step, whose state `s` is `st` again
    have ih' : ∀ {t : Node} {b : List String} {s : St}, emitsOfType fuel st t = some b → s = st →
        Names st (resolveElements fuel s t) (some b) := fun hb h => by rw [h, ← hb]; exact ih _
    have parts : ∀ ts : List Node, Names st
        (ts.foldl (fun acc t => (acc.1 ++ (resolveElements fuel acc.2 t).1, (resolveElements fuel acc.2 t).2)) ([], st))
        (ts.foldl (fun acc t => match acc, emitsOfType fuel st t with | some a, some b => some (a ++ b) | _, _ => none) (some [])) := by
      intro ts
      refine List.foldl_rel (r := Names st) (fun _ h => by cases h; exact ⟨rfl, .nil⟩) (fun t _ acc c ha => ?_)
      split
      · next hb => exact ha.append (ih' hb)
      · nofun
    unfold emitsOfType
    -- along the specification's cases; where it has no answer there is nothing to show: `nofun`
    split
    · rw [C16_literal (hg := hg)]; exact fun ns h => ⟨rfl, Carries.members hle' hg h⟩
    · rw [resolveElements_fnType hg]
      intro names h
      refine ⟨rfl, .callSig ?_⟩
      split at h
      · next t ht => rw [ht]; exact resolveStrings_of_spec_le hle' hg h
      · next ht => cases h; rw [ht]
    · rw [C16_paren (hg := hg)]; exact ih _
    · rw [resolveElements_parts (.inl rfl) hg]; exact parts _
    · rw [resolveElements_parts (.inr rfl) hg]; exact parts _
    · -- type reference
      split
      · next t hl => rw [C16_alias (h := hl) (hg := hg)]; exact ih _
      · next hl =>
        split
        · next hi =>
          rw [C16_interface_extends (h1 := hl) (h2 := hi) (hg := hg)]
          refine List.foldl_rel (r := Names st) (fun ns h => ⟨rfl, Carries.members hle' hg h⟩)
            (fun p _ ⟨ms, s⟩ c ha => ?_)
          split
          · intro ns hns
            obtain ⟨b, hb, rfl⟩ := Option.map_eq_some_iff.mp hns
            rw [C16_extends_parent_with_arguments]
            exact ha.append (ih' hb) _ rfl
          · nofun
        · nofun
    · nofun

theorem C19_refines_spec : ∀ (fuel : Nat) (st : St) (ty : Node) (names : List String), fuel ≤ FUEL → st.typeGaveUp = false →
    emitsOfType fuel st ty = some names →
    ∃ ms, resolveElements fuel st ty = (ms, st) ∧ Carries st ms names := by
  intro fuel st ty names hle hg h
  obtain ⟨h2, h1⟩ := names_resolveElements fuel st ty hle hg names h
  exact ⟨_, Prod.ext rfl h2, h1⟩

/-- For `(props, ctx: SetupContext<E>) => …`, whenever the specification reads `E`, through any registry of aliases and
    interfaces, as declaring the event names `names`, the `emits` array the model injects lists exactly `names`, in order, and
    nothing is reported. -/
theorem C19_emits_option_is_spec (first e : Node) (st : St) (names : List String) (hg : st.typeGaveUp = false)
    (h : emitsOfType FUEL st e = some names) :
    extractEmitsType (setupWithEmits first e) st = (some (nArray (names.map fun n => nArg (nStr n))), st) := by
  obtain ⟨ms, hres, hc⟩ := C19_refines_spec FUEL st e names (Nat.le_refl _) hg h
  exact extractEmitsType_setupWithEmits _ _ hres (hc [])

end VueJsx
